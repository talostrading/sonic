/-
C07 — the WebSocket frame decoder is total, bounded and stays in sync.

Model: `Sonic.Model.WsFrame` (`FrameCodec.Decode` with its lazy reset, over the ByteBuffer model of
`Sonic.Model.WsBuf`), driven by scripts `feed bytes | read bytes | decode | commit n` in which every capacity chosen by
the Go runtime is an argument.  Spec: the pure RFC 6455 parser and monitor of `Sonic.Spec.WsFrame`.

Hypotheses (`InitOk`): twice the configured maximum plus a header fits in an `int`
(`2*max + 14 ≤ MaxInt64`, i.e. `max < 2^62 - 7`; see `C07_huge_max_panics` for what happens otherwise) and the
buffer starts with a capacity between 14 and `MaxInt64` (`NewByteBuffer` gives 512).  Memory exhaustion is outside the model: a
`Reserve` of up to `max` bytes is assumed to succeed.
-/
import Sonic.Lemmas.WsDecode
import Sonic.Lemmas.WsFrames
import Sonic.Lemmas.WsEncodeSpec
import Sonic.Props.WsFrameTie

namespace Sonic.Props.C07
open Sonic.Model.WsBuf Sonic.Model.WsFrame Sonic.Spec.WsFrame

/-- Coupling between the implementation model and the monitor. -/
def R (m : DState) (s : S) : Prop :=
  m.c.Inv ∧ s.max = m.c.max ∧ s.held = m.c.held ∧ s.pending = m.c.unconsumed ∧ s.backlog = m.backlog

def InitOk (max cap : Int) : Prop := 2 * max + 14 ≤ Go.I64MAX ∧ 14 ≤ cap ∧ cap ≤ Go.I64MAX
instance (max cap : Int) : Decidable (InitOk max cap) := by unfold InitOk; exact inferInstance

theorem R_init {max cap : Int} (h : InitOk max cap) : R (DState.init max cap) (init max) := by
  obtain ⟨h1, h2, h3⟩ := h
  refine ⟨⟨⟨rfl, Int.le_refl _, Int.le_refl _, ?_, h3, rfl⟩, h2, h1, fun hr => by cases hr⟩, rfl, rfl, rfl, rfl⟩
  show (0 : Int) ≤ cap; omega

theorem observe_eq {b : Buf} (hI : b.Inv) (o : Outcome) : observe b o = .ok ⟨o, b.wi, b.cap - b.wi⟩ := by
  unfold observe
  rw [SaveLen_eq hI, ReadLen_eq hI, WriteLen_eq hI]
  simp only [ebind_ok, epure, Buf.Reserved]
  have : (0 : Int) + b.ri + (b.wi - b.ri) = b.wi := by omega
  rw [this]

theorem wi_eq {c : Codec} (hI : c.Inv) : c.buf.wi = ((c.held + c.unconsumed.length : Nat) : Int) := by
  have hh := held_le hI
  obtain ⟨hb, _⟩ := hI
  obtain ⟨_, _, h2, _, _, h5⟩ := hb
  unfold Codec.unconsumed
  rw [List.length_drop]; omega

theorem inv_append {c : Codec} (hI : c.Inv) {B : Buf} {X : List UInt8} (bi : B.Inv) (bd : B.data = c.buf.data ++ X)
    (br : c.buf.ri ≤ B.ri) (bc : c.buf.cap ≤ B.cap) :
    ({ c with buf := B } : Codec).Inv ∧ ({ c with buf := B } : Codec).unconsumed = c.unconsumed ++ X ∧
      B.wi = ((c.held + (c.unconsumed ++ X).length : Nat) : Int) := by
  have hh := held_le hI
  obtain ⟨hb, hcap, hmx, hr⟩ := hI
  have hI2 : ({ c with buf := B } : Codec).Inv := ⟨bi, Int.le_trans hcap bc, hmx, fun h => ⟨(hr h).1, Int.le_trans (hr h).2 br⟩⟩
  have hun : ({ c with buf := B } : Codec).unconsumed = c.unconsumed ++ X := by
    show B.data.drop c.held = c.buf.data.drop c.held ++ X
    rw [bd, List.drop_append_of_le_length (by obtain ⟨_, _, h2, _, _, h5⟩ := hb; omega)]
  have hw := wi_eq hI2
  rw [hun] at hw
  exact ⟨hI2, hun, hw⟩

/-- What one model step guarantees beyond acceptance: the ghost `Reserve` argument is within `[0, max]`. -/
def ReserveOk (max : Int) (g : Option Int) : Prop := ∀ k, g = some k → 0 ≤ k ∧ k ≤ max

/-- **One step refines the monitor**: from coupled states, every operation with every runtime answer either
is an inadmissible answer (`.env`), or the model does not panic, its observation is accepted by the monitor and
the states stay coupled. -/
theorem step_refines {m : DState} {s : S} (hR : R m s) (op : DOp) :
    m.step op = .error .env ∨
    ∃ m' ob g, m.step op = .ok (m', ob, g) ∧ ReserveOk s.max g ∧ ∃ s', step s op.toSpec ob = some s' ∧ R m' s' := by
  -- the monitor's state is determined by the model's: put it in
  obtain ⟨hI, hmax, hheld, hpend, hback⟩ := hR
  obtain ⟨smax, spend, sheld, sback⟩ := s
  dsimp only at hmax hheld hpend hback ⊢
  subst hmax hheld hpend hback
  have hb := hI.1
  have hwi : ∀ {c' : Codec}, c'.Inv → c'.buf.data = m.c.unconsumed → c'.buf.wi = (m.c.unconsumed.length : Nat) :=
    fun ci cd => by rw [← ci.1.2.2.2.2.2, cd]
  have nog : ReserveOk m.c.max none := fun k hk => by cases hk
  cases op with
  | feed bs cap' =>
    rcases write_cases bs cap' hb with he | ⟨B, hB, bi, bd, br, bc⟩
    · left; simp only [DState.step]; rw [he]; rfl
    · right
      obtain ⟨hI2, hun, hw⟩ := inv_append hI bi bd (Int.le_of_eq br.symm) bc
      simp only [DState.step, hB, ebind_ok, observe_eq bi, epure]
      refine ⟨_, _, none, rfl, nog, ⟨m.c.max, m.c.unconsumed ++ bs, m.c.held, m.backlog⟩, ?_, ?_⟩
      · dsimp only [DOp.toSpec, step]
        rw [if_pos hw]
      · exact ⟨hI2, rfl, rfl, hun.symm, rfl⟩
  | read bs =>
    obtain ⟨B, n, hB, bi, bn, bd, br, bc⟩ := readFrom_eq (m.backlog ++ bs) hb
    right
    obtain ⟨hI2, hun, hw⟩ := inv_append hI bi bd (Int.le_of_eq br.symm) (Int.le_of_eq bc.symm)
    simp only [DState.step, hB, ebind_ok, observe_eq bi, epure]
    refine ⟨_, _, none, rfl, nog, ⟨m.c.max, m.c.unconsumed ++ (m.backlog ++ bs).take n, m.c.held, (m.backlog ++ bs).drop n⟩, ?_, ?_⟩
    · dsimp only [DOp.toSpec, step]
      rw [if_pos ⟨bn, hw⟩]
    · exact ⟨hI2, rfl, rfl, hun.symm, rfl⟩
  | commit n =>
    right
    obtain ⟨bi, bd, br, bc⟩ := commit_inv hb n
    obtain ⟨hI2, hun, hw⟩ := inv_append (X := []) hI bi (by rw [bd, List.append_nil]) br (Int.le_of_eq bc.symm)
    simp only [DState.step, ebind_ok, observe_eq bi, epure]
    refine ⟨_, _, none, rfl, nog, ⟨m.c.max, m.c.unconsumed ++ [], m.c.held, m.backlog⟩, ?_, ?_⟩
    · dsimp only [DOp.toSpec, step]
      rw [if_pos hw]
    · exact ⟨hI2, rfl, rfl, hun.symm, rfl⟩
  | decode cap' =>
    cases hp : parse m.c.max m.c.unconsumed with
    | needMore =>
      rcases decode_needMore cap' hI hp with he | ⟨c', g, hD, ci, cr, cd, cm, cpos, cg⟩
      · left; simp only [DState.step]; rw [he]; rfl
      · right
        simp only [DState.step, hD, ebind_ok, observe_eq ci.1, epure]
        refine ⟨_, _, g, rfl, cg, ⟨m.c.max, m.c.unconsumed, 0, m.backlog⟩, ?_, ?_⟩
        · dsimp only [DOp.toSpec, step]
          rw [hp]
          dsimp only
          rw [if_pos ⟨hwi ci cd, cpos⟩]
        · exact ⟨ci, cm.symm, (Codec.held_of_not_reset cr).symm,
          ((Codec.unconsumed_of_not_reset cr).trans cd).symm, rfl⟩
    | tooBig =>
      obtain ⟨c', hD, ci, cr, cd, cm, cc⟩ := decode_tooBig cap' hI hp
      right
      simp only [DState.step, hD, ebind_ok, observe_eq ci.1, epure]
      refine ⟨_, _, none, rfl, nog, ⟨m.c.max, m.c.unconsumed, 0, m.backlog⟩, ?_, ?_⟩
      · dsimp only [DOp.toSpec, step]
        rw [hp]
        dsimp only
        rw [if_pos (hwi ci cd)]
      · exact ⟨ci, cm.symm, (Codec.held_of_not_reset cr).symm,
        ((Codec.unconsumed_of_not_reset cr).trans cd).symm, rfl⟩
    | frame f n =>
      obtain ⟨c', hD, ci, cr, cf, cd, cm, cc⟩ := decode_frame cap' hI hp
      right
      simp only [DState.step, hD, ebind_ok, view_take hp, observe_eq ci.1, epure]
      refine ⟨_, _, none, rfl, nog, ⟨m.c.max, m.c.unconsumed.drop n, n, m.backlog⟩, ?_, ?_⟩
      · dsimp only [DOp.toSpec, step]
        rw [hp]
        dsimp only
        rw [if_pos ⟨rfl, rfl, parse_frame_bounded hp, hwi ci cd⟩]
      · exact ⟨ci, cm.symm, (Codec.held_of_reset cr cf).symm,
        by rw [Codec.unconsumed_of_reset cr cf, cd], rfl⟩

/-- The trace the monitor sees. -/
def specTrace (tr : List (DOp × Obs × Option Int)) : List (Op × Obs) := tr.map fun x => (x.1.toSpec, x.2.1)

/-- **Refinement for whole scripts** (induction over the operation list; no bound on its length, on the
bytes, on the segmentation or on the runtime's capacity answers). -/
theorem run_refines : ∀ (ops : List DOp) (m : DState) (s : S), R m s →
    m.run ops = .error .env ∨
    ∃ tr, m.run ops = .ok tr ∧ accepts s (specTrace tr) = true ∧ (∀ x ∈ tr, ReserveOk s.max x.2.2) := by
  intro ops
  induction ops with
  | nil => intro m s _; right; exact ⟨[], rfl, rfl, fun x hx => by cases hx⟩
  | cons op rest ih =>
    intro m s hR
    rcases step_refines hR op with he | ⟨m', ob, g, hst, hg, s', hs, hR'⟩
    · left; unfold DState.run; rw [he]; rfl
    · rcases ih m' s' hR' with he | ⟨tr, htr, hacc, hres⟩
      · left; unfold DState.run; rw [hst]; simp only [ebind_ok]; rw [he]; rfl
      · right
        refine ⟨(op, ob, g) :: tr, ?_, ?_, ?_⟩
        · unfold DState.run; rw [hst]; simp only [ebind_ok]; rw [htr]; rfl
        · unfold specTrace accepts; simp only [List.map_cons]; rw [hs]; exact hacc
        · intro x hx
          rcases List.mem_cons.mp hx with h | h
          · rw [h]; exact hg
          · have := hres x h; rw [step_max hs] at this; exact this

abbrev Trace := List (DOp × Obs × Option Int)

/-- The model's run from a fresh codec. -/
def runInit (max cap : Int) (ops : List DOp) : M Trace := (DState.init max cap).run ops

/-- **Total**: for every byte list, every segmentation, every placement of `Decode` calls and every capacity
the runtime may answer, the decoder never panics and never interprets bytes it has not received — the only
way the model's run can stop is an inadmissible capacity answer. -/
theorem C07_total (max cap : Int) (h : InitOk max cap) (ops : List DOp) :
    ∀ e, runInit max cap ops = .error e → e = .env := by
  intro e he
  rcases run_refines ops _ _ (R_init h) with h1 | ⟨tr, h1, _⟩
  · unfold runInit at he; rw [h1] at he; cases he; rfl
  · unfold runInit at he; rw [h1] at he; cases he

theorem runInit_ok {max cap : Int} (h : InitOk max cap) {ops : List DOp} {tr : Trace} (hrun : runInit max cap ops = .ok tr) :
    accepts (init max) (specTrace tr) = true ∧ ∀ x ∈ tr, ReserveOk max x.2.2 := by
  rcases run_refines ops _ _ (R_init h) with h1 | ⟨tr', h1, hacc, hres⟩
  · rw [runInit, h1] at hrun; cases hrun
  · rw [runInit, h1] at hrun; cases hrun; exact ⟨hacc, hres⟩

/-- **Accepted**: every observation of every run is accepted by the RFC 6455 monitor. -/
theorem C07_accepted (max cap : Int) (h : InitOk max cap) (ops : List DOp) (tr : Trace)
    (hrun : runInit max cap ops = .ok tr) : accepts (init max) (specTrace tr) = true :=
  (runInit_ok h hrun).1

/-- **Bounded**: no yielded frame has a payload above the maximum, and whenever the decoder asks the buffer
to make room (`src.Reserve(n)`) it asks for `0 ≤ n ≤ max`. -/
theorem C07_bounded (max cap : Int) (h : InitOk max cap) (ops : List DOp) (tr : Trace)
    (hrun : runInit max cap ops = .ok tr) :
    ∀ x ∈ tr, (∀ f n, x.2.1.out = .frame f n → (f.payload.length : Int) ≤ max) ∧
              (∀ k, x.2.2 = some k → 0 ≤ k ∧ k ≤ max) := by
  intro x hx
  obtain ⟨hacc, hres⟩ := runInit_ok h hrun
  exact ⟨(accepts_good _ _ hacc (x.1.toSpec, x.2.1) (List.mem_map.mpr ⟨x, hx, rfl⟩)).2.2.1, hres x hx⟩

/-- **64-bit lengths with the top bit set** (the defect repaired by 549141a) are refused as soon as the length
field is complete, from every reachable codec state and whatever follows. -/
theorem C07_bounded_top_bit (c : Codec) (cap' : Int) (hI : c.Inv) (h10 : 10 ≤ c.unconsumed.length)
    (h127 : byteAt c.unconsumed 1 % 128 = 127) (htop : 2 ^ 63 ≤ beNat ((c.unconsumed.drop 2).take 8)) :
    ∃ c', c.Decode cap' = .ok (c', .tooBig, none) := by
  have hext : extLen (byteAt c.unconsumed 1) = 8 := by unfold extLen; rw [if_pos h127]
  have hd : declLen c.unconsumed = beNat ((c.unconsumed.drop 2).take 8) := by
    unfold declLen; rw [hext, if_neg (by omega)]
  have hm := hI.max_le
  have hp : parse c.max c.unconsumed = .tooBig :=
    parse_tooBig_of (by omega) (by rw [hd]; unfold Go.I64MAX at hm; omega)
  obtain ⟨c', hc, _⟩ := decode_tooBig cap' hI hp
  exact ⟨c', hc⟩

/-- **A `need more` answer leaves room for the next read** (`Reserved() > 0`): a transport read into the
buffer is never a zero-length read that would be taken for EOF. -/
theorem C07_needmore_can_progress (max cap : Int) (h : InitOk max cap) (ops : List DOp) (tr : Trace)
    (hrun : runInit max cap ops = .ok tr) : ∀ x ∈ tr, x.2.1.out = .needMore → 0 < x.2.1.reserved := by
  intro x hx
  have := accepts_good _ _ (C07_accepted max cap h ops tr hrun) (x.1.toSpec, x.2.1) (List.mem_map.mpr ⟨x, hx, rfl⟩)
  exact this.2.2.2

/-- **Consumes exactly**: a successful `Decode` hands out exactly the first `len(frame)` unconsumed bytes and the
next `Decode` starts right after them; an unsuccessful one consumes nothing. (`unconsumed` = buffer contents
minus the frame handed out by the previous call, which the lazy reset drops.) -/
theorem C07_consumes_exactly (c c' : Codec) (cap' : Int) (o : Decoded) (g : Option Int) (hI : c.Inv)
    (hD : c.Decode cap' = .ok (c', o, g)) :
    c'.Inv ∧
    match o with
    | .frame fb => fb = c.unconsumed.take fb.length ∧ fb.length ≤ c.unconsumed.length ∧ 2 ≤ fb.length ∧
                   c'.unconsumed = c.unconsumed.drop fb.length
    | _ => c'.unconsumed = c.unconsumed := by
  cases hp : parse c.max c.unconsumed with
  | needMore =>
    rcases decode_needMore cap' hI hp with he | ⟨c2, g2, hD2, ci, cr, cd, _⟩
    · rw [he] at hD; cases hD
    · rw [hD2] at hD; cases hD
      exact ⟨ci, (Codec.unconsumed_of_not_reset cr).trans cd⟩
  | tooBig =>
    obtain ⟨c2, hD2, ci, cr, cd, _⟩ := decode_tooBig cap' hI hp
    rw [hD2] at hD; cases hD
    exact ⟨ci, (Codec.unconsumed_of_not_reset cr).trans cd⟩
  | frame f n =>
    obtain ⟨c2, hD2, ci, cr, cf, cd, _⟩ := decode_frame cap' hI hp
    obtain ⟨h2, hn, hle, _, _⟩ := parse_frame hp
    have hge := hdrLen_ge c.unconsumed
    rw [hD2] at hD; cases hD
    have hl : (c.unconsumed.take n).length = n := by rw [List.length_take]; omega
    refine ⟨ci, ?_⟩
    show _ ∧ _ ∧ _ ∧ c'.unconsumed = _
    rw [hl, Codec.unconsumed_of_reset cr cf, cd]
    exact ⟨rfl, hle, by omega, rfl⟩

/-- The bytes of the `feed` operations of a script, in order. -/
def opsBytes : List DOp → List UInt8
  | [] => []
  | .feed bs _ :: r => bs ++ opsBytes r
  | _ :: r => opsBytes r

/-- The script delivers bytes with `feed` only (no partial transport reads). -/
def FeedOnly (ops : List DOp) : Prop := ∀ op ∈ ops, ∀ bs, op ≠ .read bs

/-- The last call of the trace is a `Decode` that returned `need more` or `too big`: the decoder was run to
exhaustion on what it had been given. -/
def Drained (tr : Trace) (fin : Final) : Prop :=
  ∃ ob, (specTrace tr).getLast? = some (.decode, ob) ∧
    ((fin = .needMore ∧ ob.out = .needMore) ∨ (fin = .tooBig ∧ ob.out = .tooBig))

theorem run_ops : ∀ (ops : List DOp) (m : DState) (tr : Trace), m.run ops = .ok tr → tr.map (·.1) = ops := by
  intro ops
  induction ops with
  | nil => intro m tr h; cases h; rfl
  | cons op r ih =>
    intro m tr h
    unfold DState.run at h
    cases hs : m.step op with
    | error e => rw [hs] at h; cases h
    | ok x =>
      rw [hs] at h
      simp only [ebind_ok] at h
      cases hr : x.1.run r with
      | error e => rw [hr] at h; cases h
      | ok t => rw [hr] at h; cases h; simp [ih _ _ hr]

theorem fedBytes_specTrace : ∀ (tr : Trace), fedBytes (specTrace tr) = opsBytes (tr.map (·.1)) := by
  intro tr
  induction tr with
  | nil => rfl
  | cons x r ih =>
    obtain ⟨op, ob, g⟩ := x
    cases op <;> simp [specTrace, fedBytes, opsBytes, DOp.toSpec] <;> exact ih

theorem noRead_specTrace (tr : Trace) (h : FeedOnly (tr.map (·.1))) : NoRead (specTrace tr) := by
  intro e he bs hc
  obtain ⟨x, hx, rfl⟩ := List.mem_map.mp he
  obtain ⟨op, ob, g⟩ := x
  cases op with
  | feed b c => cases hc
  | decode c => cases hc
  | commit n => cases hc
  | read b => exact h (.read b) (List.mem_map.mpr ⟨_, hx, rfl⟩) b rfl

theorem drained_frames {max : Int} {tr : Trace} {fin : Final} (hacc : accepts (init max) (specTrace tr) = true)
    (hdr : Drained tr fin) : frames max (delivered (init max) (specTrace tr)) = (yielded (specTrace tr), fin) := by
  obtain ⟨ob, hl, hfin⟩ := hdr
  have hd := frames_drained hacc hl
  simp only [init, List.nil_append] at hd
  rcases hfin with ⟨rfl, ho⟩ | ⟨rfl, ho⟩
  · exact hd.1 ho
  · exact hd.2 ho

/-- **The frames are the frames of the byte stream**: whatever the segmentation, wherever `Decode` was called
and whatever the runtime answered, once the decoder has been run to exhaustion the frames it yielded are
exactly the frame sequence (RFC 6455 parse, repeated) of the concatenation of the delivered bytes, and the
final answer (`need more` / `too big`) is the one of that sequence. -/
theorem C07_frames_of_stream (max cap : Int) (h : InitOk max cap) (ops : List DOp) (tr : Trace)
    (hrun : runInit max cap ops = .ok tr) (hfeed : FeedOnly ops) (fin : Final) (hdr : Drained tr fin) :
    frames max (opsBytes ops) = (yielded (specTrace tr), fin) := by
  have hacc := C07_accepted max cap h ops tr hrun
  have hops := run_ops ops _ tr hrun
  rw [← drained_frames hacc hdr, delivered_noRead _ _ hacc (noRead_specTrace tr (by rw [hops]; exact hfeed)),
    fedBytes_specTrace, hops]

/-- **Segmentation independence**: two scripts that deliver the same bytes — split differently, with `Decode`
called at different moments, with different runtime capacities — yield the same frames and end the same way. -/
theorem C07_segmentation_independent (max cap₁ cap₂ : Int) (h₁ : InitOk max cap₁) (h₂ : InitOk max cap₂)
    (ops₁ ops₂ : List DOp) (tr₁ tr₂ : Trace)
    (hrun₁ : runInit max cap₁ ops₁ = .ok tr₁) (hrun₂ : runInit max cap₂ ops₂ = .ok tr₂)
    (hf₁ : FeedOnly ops₁) (hf₂ : FeedOnly ops₂) (hbytes : opsBytes ops₁ = opsBytes ops₂)
    (fin₁ fin₂ : Final) (hd₁ : Drained tr₁ fin₁) (hd₂ : Drained tr₂ fin₂) :
    yielded (specTrace tr₁) = yielded (specTrace tr₂) ∧ fin₁ = fin₂ := by
  have e1 := C07_frames_of_stream max cap₁ h₁ ops₁ tr₁ hrun₁ hf₁ fin₁ hd₁
  have e2 := C07_frames_of_stream max cap₂ h₂ ops₂ tr₂ hrun₂ hf₂ fin₂ hd₂
  rw [hbytes, e2] at e1
  exact ⟨(Prod.mk.inj e1).1.symm, (Prod.mk.inj e1).2.symm⟩

/-- `C07_frames_of_stream` with partial transport reads (`read`): the yielded frames are the frame sequence of the bytes
that entered the buffer. -/
theorem C07_frames_of_stream_reads (max cap : Int) (h : InitOk max cap) (ops : List DOp) (tr : Trace)
    (hrun : runInit max cap ops = .ok tr) (fin : Final) (hdr : Drained tr fin) :
    frames max (delivered (init max) (specTrace tr)) = (yielded (specTrace tr), fin) :=
  drained_frames (C07_accepted max cap h ops tr hrun) hdr

/-- **decode ∘ encode = id**: for every list of frames (every FIN/RSV/opcode/mask combination, every payload
length up to the maximum, hence every length class 7/16/64 bit), feeding the encoder's output in any
segmentation and decoding to exhaustion returns exactly those frames. -/
theorem C07_decode_encode (max cap : Int) (h : InitOk max cap) (fs : List Frame)
    (hfs : ∀ f ∈ fs, f.WF ∧ (f.payload.length : Int) ≤ max)
    (ops : List DOp) (tr : Trace) (hrun : runInit max cap ops = .ok tr) (hfeed : FeedOnly ops)
    (hbytes : opsBytes ops = fs.flatMap encode) (fin : Final) (hdr : Drained tr fin) :
    yielded (specTrace tr) = fs ∧ fin = .needMore := by
  have e := C07_frames_of_stream max cap h ops tr hrun hfeed fin hdr
  rw [hbytes, frames_encode max fs hfs] at e
  exact ⟨(Prod.mk.inj e).1.symm, (Prod.mk.inj e).2.symm⟩

/-! ## Non-vacuity: the hypotheses are satisfiable, the monitor is not trivial, the hypothesis on `max` is needed -/

def outs (r : M Trace) : Option (List Outcome) := match r with | .ok tr => some (tr.map (·.2.1.out)) | .error _ => none
def err (r : M Trace) : Option Panic := match r with | .ok _ => none | .error e => some e
def traceOf (r : M Trace) : Trace := match r with | .ok tr => tr | .error _ => []

theorem ok_of_err_none {r : M Trace} (h : err r = none) : r = .ok (traceOf r) := by
  cases r with
  | ok tr => rfl
  | error e => cases h

/-- `DefaultMaxMessageSize` and the stream's initial `Reserve(4096)`. -/
example : InitOk 524288 4096 := by decide

/-- The corpus witness of the repaired defect: `82 7f 80 00 00 00 00 00 00 00` (length 2^63) is refused, twice. -/
example : outs (runInit 524288 4096 [.feed [0x82, 0x7f, 0x80, 0, 0, 0, 0, 0, 0, 0] 4096, .decode 4096, .decode 4096])
    = some [.ok, .tooBig, .tooBig] := by decide +kernel

def exFrame : Frame := { fin := true, rsv1 := false, rsv2 := false, rsv3 := false, opcode := 1, masked := true,
                         mask := [1, 2, 3, 4], payload := [0x49, 0x6b] }
def exOps : List DOp :=
  [.feed [0x81] 512, .decode 512, .feed [0x82, 1, 2] 512, .decode 512, .feed [3, 4, 0x49, 0x6b] 512, .decode 512, .decode 512]

example : encode exFrame = [0x81, 0x82, 1, 2, 3, 4, 0x49, 0x6b] := by decide

/-- A masked text frame delivered in three segments: need more, need more, the frame, need more. -/
example : outs (runInit 200 512 exOps) = some [.ok, .needMore, .ok, .needMore, .ok, .frame exFrame 8, .needMore] := by decide +kernel

/-- All hypotheses of `C07_decode_encode` / `C07_frames_of_stream` hold together for that script. -/
example : InitOk 200 512 ∧ runInit 200 512 exOps = .ok (traceOf (runInit 200 512 exOps)) ∧ FeedOnly exOps ∧
    opsBytes exOps = [exFrame].flatMap encode ∧ (∀ f ∈ [exFrame], f.WF ∧ (f.payload.length : Int) ≤ 200) ∧
    Drained (traceOf (runInit 200 512 exOps)) .needMore := by
  refine ⟨by decide, ok_of_err_none (by decide +kernel), ?_, by decide, by decide, ?_⟩
  · intro op hop bs hc; subst hc; simp [exOps] at hop
  · exact ⟨⟨.needMore, 0, 512⟩, by decide +kernel, Or.inl ⟨rfl, rfl⟩⟩

/-- The monitor rejects a frame that has not been received, and a `need more` that leaves no room. -/
example : step (init 200) .decode ⟨.frame exFrame 8, 0, 512⟩ = none := by decide
example : step { init 200 with pending := [0x81, 0x05, 1, 2] } .decode ⟨.needMore, 4, 0⟩ = none := by decide
example : step { init 200 with pending := [0x81, 0x05, 1, 2] } .decode ⟨.needMore, 4, 508⟩ ≠ none := by decide

/-- Without the hypothesis on `max` the property is false: with `maxMessageSize = MaxInt64` the declared length
2^63-1 passes the check, `readSoFar += payloadLength` wraps to a negative number, `PrepareRead` has nothing to do
and `src.Data()[:readSoFar]` panics with a negative slice bound. -/
theorem C07_huge_max_panics :
    err (runInit Go.I64MAX 512 [.feed [0x82, 0x7f, 0x7f, 0xff, 0xff, 0xff, 0xff, 0xff, 0xff, 0xff] 512, .decode 512])
      = some .sliceBounds := by decide +kernel

end Sonic.Props.C07
