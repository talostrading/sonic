/-
C18 — WebSocket opening handshake: sound acceptance, robust parsing, no lost bytes.

Model: `Sonic.Model.WsHandshake` (stream.go `Handshake`/`AsyncHandshake`/`handshake`/`upgrade`/`reset`/`init`,
rfc6455.go `IsUpgradeRes`).  PARTIAL: `net/http` response parsing (`Params.parse`), SHA-1 + base64
(`Params.acceptOf`), randomness of the key, the growth of the handshake buffer (`Params.grow`) and TCP are
parameters of the theorems, not proven; they are exercised against the real thing by the trace check
(`harness wshandshake`).  All theorems hold for every value of those parameters, every segmentation of the
response (`Wire.cuts`), every state the stream was in before, and every response shorter than
`maxHandshakeResponseLength`.
-/
import Sonic.Lemmas.WsHandshakeOutcome

namespace Sonic.Props.C18
open Sonic.Spec.WsHandshake Sonic.Model.WsHandshake Sonic.Lemmas.WsHandshake

/-- The hypotheses shared by the theorems: the runtime's `append` really grows a full buffer, and the delivered
bytes (response head and whatever was piggy-backed) fit the handshake buffer's limit. -/
def Admissible (P : Params) (w : Wire) : Prop :=
  (∀ c, c < P.grow c) ∧ w.rest.length < maxHandshakeResponseLength

/-- **Sound and complete acceptance.** The handshake ends without error **iff** the delivered bytes contain a
complete response head (up to the first blank line), `http.ReadResponse` parses it, its status is 101, it has an
`Upgrade` header equal to `websocket` ignoring case, and its `Sec-WebSocket-Accept` value is the one derived
from the key that was sent.  Then the stream is active on an open connection; in every other case the call
reports an error and leaves the stream terminated with the connection released — never half-open. -/
theorem C18_accept_iff (P : Params) (s : St) (key : String) (w : Wire) (h : Admissible P w) :
    ((handshake P s key w).2.1 = .nil ↔
      ∃ k res, headEnd w.rest = some k ∧ P.parse (w.rest.take k) = some res ∧ res.status = 101 ∧
        (∃ u, res.upgrade = some u ∧ eqFold u "websocket" = true) ∧ res.accept = some (P.acceptOf key)) ∧
    ((handshake P s key w).2.1 = .nil →
      (handshake P s key w).1.state = .active ∧ (handshake P s key w).1.conn = true ∧ (handshake P s key w).1.stream = true) ∧
    ((handshake P s key w).2.1 ≠ .nil →
      (handshake P s key w).1.state = .terminated ∧ (handshake P s key w).1.conn = false) := by
  obtain ⟨h1, _, _, _, _, h6, h7⟩ := handshake_spec P h.1 s key w h.2
  refine ⟨?_, fun hn => ⟨(h6 hn).1, (h6 hn).2.1, (h6 hn).2.2.1⟩, h7⟩
  rw [h1]
  constructor
  · intro ho
    obtain ⟨k, res, hk, hp, hg⟩ := outcome_nil ho
    refine ⟨k, res, hk, hp, ?_⟩
    simp only [goodRes, isUpgradeRes, Bool.and_eq_true, beq_iff_eq] at hg
    obtain ⟨⟨hs, hu⟩, ha⟩ := hg
    refine ⟨hs, ?_, ha⟩
    cases hup : res.upgrade with
    | none => rw [hup] at hu; cases hu
    | some u => rw [hup] at hu; exact ⟨u, rfl, hu⟩
  · rintro ⟨k, res, hk, hp, hs, ⟨u, hu1, hu2⟩, ha⟩
    simp only [outcome, hk, hp]
    have : goodRes P key res = true := by
      simp [goodRes, isUpgradeRes, hs, hu1, hu2, ha]
    rw [this]; rfl

/-- **Segmentation independence.** Two runs that differ only in how the transport cuts the delivered bytes into
reads (and in the stream's previous state and buffer capacity) end with the same error and the same state. -/
theorem C18_segmentation_independent (P : Params) (s₁ s₂ : St) (key : String) (w₁ w₂ : Wire)
    (h₁ : Admissible P w₁) (hrest : w₂.rest = w₁.rest) (hclosed : w₂.closed = w₁.closed) :
    (handshake P s₁ key w₁).2.1 = (handshake P s₂ key w₂).2.1 ∧
    (handshake P s₁ key w₁).1.state = (handshake P s₂ key w₂).1.state ∧
    (handshake P s₁ key w₁).1.conn = (handshake P s₂ key w₂).1.conn := by
  have h₂ : Admissible P w₂ := ⟨h₁.1, by rw [hrest]; exact h₁.2⟩
  obtain ⟨a1, _, _, _, _, a6, a7⟩ := handshake_spec P h₁.1 s₁ key w₁ h₁.2
  obtain ⟨b1, _, _, _, _, b6, b7⟩ := handshake_spec P h₂.1 s₂ key w₂ h₂.2
  have he : (handshake P s₁ key w₁).2.1 = (handshake P s₂ key w₂).2.1 := by rw [a1, b1, hrest, hclosed]
  refine ⟨he, ?_, ?_⟩
  · by_cases hn : (handshake P s₁ key w₁).2.1 = .nil
    · rw [(a6 hn).1, (b6 (he ▸ hn)).1]
    · rw [(a7 hn).1, (b7 (he ▸ hn)).1]
  · by_cases hn : (handshake P s₁ key w₁).2.1 = .nil
    · rw [(a6 hn).2.1, (b6 (he ▸ hn)).2.1]
    · rw [(a7 hn).2, (b7 (he ▸ hn)).2]

/-- **No byte lost, none duplicated.** After a successful handshake, the read buffer followed by what the
transport still holds is exactly the delivered bytes after the blank line that ends the response — for every
segmentation (also when the blank line straddles reads or frames arrive in the same read as the head), every
header spelling and every previous content of the buffers. -/
theorem C18_leftover_exact (P : Params) (s : St) (key : String) (w : Wire) (h : Admissible P w)
    (hok : (handshake P s key w).2.1 = .nil) :
    ∃ k, headEnd w.rest = some k ∧
      frameStream (handshake P s key w).1 (handshake P s key w).2.2 = w.rest.drop k := by
  obtain ⟨h1, _, _, _, _, h6, _⟩ := handshake_spec P h.1 s key w h.2
  obtain ⟨k, _, hk, _, _⟩ := outcome_nil (h1 ▸ hok)
  exact ⟨k, hk, (h6 hok).2.2.2.2 k hk⟩

/-- The session fields of the stream (everything except configuration and the capacity of the handshake buffer). -/
def session (s : St) : StState × Bool × Bool × Bytes × Bytes × Nat × Bool × Nat :=
  (s.state, s.conn, s.stream, s.src, s.dst, s.pending, s.asyncFlushing, s.flushWaiters)

/-- **A new handshake starts afresh.** `reset` (the first thing `Handshake`/`AsyncHandshake` do) puts every session
field back to the value a new stream has — whatever state, buffers, queued frames (`pendingFrames`, the defect
repaired by da0389d) or flush bookkeeping the previous session left — and the handshake buffer is whole again. -/
theorem C18_rehandshake_fresh (s : St) :
    session (reset s) = session St.new ∧ (reset s).hbLen = (reset s).hbCap ∧ (reset s).hbCap = s.hbCap := by
  exact ⟨rfl, rfl, rfl⟩

/-- … and so is the stream a handshake leaves behind: nothing queued, nothing in the write buffer, no flush in
flight, whatever came before. -/
theorem C18_handshake_leaves_nothing_stale (P : Params) (s : St) (key : String) (w : Wire) (h : Admissible P w) :
    (handshake P s key w).1.pending = 0 ∧ (handshake P s key w).1.dst = [] ∧
    (handshake P s key w).1.asyncFlushing = false ∧ (handshake P s key w).1.flushWaiters = 0 := by
  obtain ⟨_, h2, h3, h4, h5, _, _⟩ := handshake_spec P h.1 s key w h.2
  exact ⟨h2, h3, h4, h5⟩

theorem mem_fold_headers (extra : List (String × String)) :
    ∀ (hs : List (String × String)) (m : String × String), m ∈ hs → (∀ h ∈ extra, eqFold m.1 h.1 = false) →
      m ∈ extra.foldl (fun hs h => hs.filter (fun x => !eqFold x.1 h.1) ++ [h]) hs := by
  induction extra with
  | nil => intro hs m hm _; exact hm
  | cons h r ih =>
    intro hs m hm hne
    simp only [List.foldl_cons]
    apply ih
    · apply List.mem_append_left
      rw [List.mem_filter]
      exact ⟨hm, by rw [hne h (List.mem_cons_self ..)]; rfl⟩
    · intro h' hh'; exact hne h' (List.mem_cons_of_mem _ hh')

/-- The request carries the mandatory headers with the key that is later checked, plus the caller's headers
(provided they do not replace a mandatory one). -/
theorem C18_request_wellformed (host key : String) (extra : List (String × String))
    (hextra : ∀ h ∈ extra, ∀ m ∈ ["Host", "Upgrade", "Connection", "Sec-WebSocket-Key", "Sec-Websocket-Version"], eqFold m h.1 = false) :
    ∀ m ∈ [("Host", host), ("Upgrade", "websocket"), ("Connection", "upgrade"), ("Sec-WebSocket-Key", key),
            ("Sec-Websocket-Version", "13")], m ∈ requestHeaders host key extra := by
  intro m hm
  exact mem_fold_headers extra _ m hm fun h hh => hextra h hh m.1 (List.mem_map_of_mem (f := Prod.fst) hm)

/-- **The model is accepted by the monitor.** For every scripted handshake — any response, any cut of it into
writes, any close point, any previous state of the stream — whose head `http.ReadResponse` reads the way the
generator built it (`hcons`), what the model predicts is accepted by the monitor `hsOk`: active iff good
response, first frame = the piggy-backed bytes, otherwise error + terminated + released; nothing stale. -/
theorem C18_observation_accepted (P : Params) (s : St) (host key : String) (p : Plan) (h : Admissible P (wireOf p))
    (hreq : reqWellFormed (requestHeaders host key p.extra) host key p.extra = true)
    (hcons : ∀ k, headEnd (delivered p) = some k →
      match P.parse ((delivered p).take k) with
      | none => p.resp.parseOk = false
      | some r => goodRes P key r = p.resp.good)
    (hwait : headEnd (delivered p) = none → p.closeAt.isSome = true) :
    hsOk p (observe P s host key p).2 = true := by
  obtain ⟨h1, h2, _, _, _, h6, h7⟩ := handshake_spec P h.1 s key (wireOf p) h.2
  have hrest : (wireOf p).rest = delivered p := rfl
  have hclosed : (wireOf p).closed = p.closeAt.isSome := rfl
  rw [hrest, hclosed] at h1
  rw [hrest] at h6
  unfold hsOk observe
  simp only [hreq, h2, Bool.true_and, beq_self_eq_true]
  generalize hr : handshake P s key (wireOf p) = r at *
  -- every way to fail: error, terminated, connection released, no frame
  have hfail : r.2.1 ≠ .nil →
      (r.2.1 != .nil && r.1.state == .terminated && decide (r.2.1 ≠ .nil ∧ ¬ r.1.conn = true) &&
        (if r.2.1 = .nil then expectedFrame (frameStream r.1 r.2.2) p.closeAt.isSome else FrameObs.none) == FrameObs.none)
        = true := by
    intro hne
    obtain ⟨t1, t2⟩ := h7 hne
    simp [hne, t1, t2]
  cases hh : headEnd (delivered p) with
  | none => exact hfail (by rw [h1]; simp [outcome, hh, hwait hh])
  | some k =>
    have hc := hcons k hh
    cases hp : P.parse ((delivered p).take k) with
    | none =>
      rw [hp] at hc
      have hg : p.resp.good = false := by simp [Resp.good, hc]
      rw [hg]
      exact hfail (by rw [h1]; simp [outcome, hh, hp])
    | some res =>
      rw [hp] at hc
      cases hg : p.resp.good with
      | false => exact hfail (by rw [h1]; simp [outcome, hh, hp, hc, hg])
      | true =>
        have he : r.2.1 = .nil := by rw [h1]; simp [outcome, hh, hp, hc, hg]
        obtain ⟨t1, _, _, _, t5⟩ := h6 he
        simp [he, t1, t5 k hh]

/-! ## Non-vacuity -/

/-- The parameters used for replaying traces: a formal accept value and a fixed parse. -/
def demoParams (res : Option HttpResp) : Params :=
  { acceptOf := fun k => "accept(" ++ k ++ ")", parse := fun _ => res, grow := fun c => 2 * c + 1 }

def demoHead : Bytes := [72, 84, 84, 80, 13, 10, 13, 10]     -- "HTTP\r\n\r\n"
def demoGood : HttpResp := { status := 101, upgrade := some "WebSocket", accept := some "accept(k)" }

-- the hypotheses are satisfiable
example : Admissible (demoParams (some demoGood)) { rest := demoHead ++ [0x81, 0], closed := false, cuts := [3, 4] } :=
  ⟨fun c => by show c < 2 * c + 1; omega, by decide⟩

-- a good response cut inside the blank line, with a frame piggy-backed, on a stream that had a frame pending:
-- accepted, active, nothing stale, and the frame layer sees exactly the two frame bytes
example :
    let r := handshake (demoParams (some demoGood)) { St.new with pending := 1, state := .active, src := [1, 2, 3] } "k"
      { rest := demoHead ++ [0x81, 0], closed := false, cuts := [6, 1, 2] }
    (r.2.1, r.1.state, r.1.pending, frameStream r.1 r.2.2) = (.nil, .active, 0, [0x81, 0]) := by decide +kernel

-- status 200, a case-changed accept value, a missing Upgrade header, a truncated head: refused and terminated
example : (handshake (demoParams (some { demoGood with status := 200 })) St.new "k" { rest := demoHead, closed := false, cuts := [] }).2.1 = .cannotUpgrade := by decide
example : (handshake (demoParams (some { demoGood with accept := some "ACCEPT(K)" })) St.new "k" { rest := demoHead, closed := false, cuts := [] }).2.1 = .cannotUpgrade := by decide +kernel
example : (handshake (demoParams (some { demoGood with upgrade := none })) St.new "k" { rest := demoHead, closed := false, cuts := [] }).1.state = .terminated := by decide
example : (handshake (demoParams (some demoGood)) St.new "k" { rest := demoHead.take 7, closed := true, cuts := [2] }).2.1 = .eof := by decide

-- the monitor rejects a refused good response, an accepted bad one, a lost piggy-backed byte, a stale frame
def demoPlan (good : Bool) : Plan :=
  { async := false, head := demoHead, resp := { parseOk := true, status := if good then 101 else 200, upgrade := some "websocket", acceptOk := true },
    trail := [0x81, 1, 65], cuts := [], closeAt := none, extra := [] }
example : hsOk (demoPlan true) { reqOk := true, err := .nil, state := .active, pending := 0, peerClosed := false, frame := .ok true 1 [65], srvExtra := 0 } = true := by decide +kernel
example : hsOk (demoPlan true) { reqOk := true, err := .eof, state := .terminated, pending := 0, peerClosed := true, frame := .none, srvExtra := 0 } = false := by decide +kernel
example : hsOk (demoPlan false) { reqOk := true, err := .nil, state := .active, pending := 0, peerClosed := false, frame := .ok true 1 [65], srvExtra := 0 } = false := by decide
example : hsOk (demoPlan true) { reqOk := true, err := .nil, state := .active, pending := 0, peerClosed := false, frame := .ok true 1 [66], srvExtra := 0 } = false := by decide +kernel
example : hsOk (demoPlan true) { reqOk := true, err := .nil, state := .active, pending := 1, peerClosed := false, frame := .ok true 1 [65], srvExtra := 0 } = false := by decide

end Sonic.Props.C18
