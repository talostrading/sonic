/-
C11 — MirroredBuffer is a contiguous-claim ring for every accepted size.

Theorems are stated about `Sonic.Gen.MirroredBuffer`, the index logic regenerated from
bytes/mirrored_buffer.go on every run, wrapped by `Sonic.Model.Mirrored` (hand-modelled: the
constructor's size rounding and the memory behind the double mapping), and about the abstract
monitor `Sonic.Spec.Mirrored` (a ring of exactly `size` physical cells, the queue of used cells).

Outside the theorems (OS behaviour, checked by the harness against the real mapping on every run):
that virtual position `v` of the double mapping is physical cell `v % size`, and that `Destroy`
releases the mappings and the backing file.
-/
import Sonic.Lemmas.MirroredRefine

namespace Sonic.Props.C11
open Sonic.Gen.MirroredBuffer Sonic.Spec.Mirrored Sonic.Model.Mirrored
open Sonic.Spec.Bip (imin cells mem_cells)

/-- **The compact monitor the driver executes is sound for the reference monitor**: any trace (of
the implementation, the model, anything) with non-negative amounts that the compact monitor
accepts is accepted by the cell-queue monitor. -/
theorem compact_sound (c : C) (s : S) (tr : List (Op × Obs)) (hR : R2 c s) (hops : ∀ x ∈ tr, OpOk x.1)
    (h : caccepts c tr = true) : accepts s tr = true := by
  induction tr generalizing c s with
  | nil => rfl
  | cons x r ih =>
    obtain ⟨op, ob⟩ := x
    simp only [caccepts] at h
    cases hc : cstep c op ob with
    | none => rw [hc] at h; exact absurd h (by simp)
    | some c' =>
      rw [hc] at h
      obtain ⟨s', h1, h2⟩ := compact_step_sound c c' s op ob hR (hops (op, ob) (List.mem_cons_self ..)) hc
      simp only [accepts, h1]
      exact ih c' s' h2 (fun y hy => hops y (List.mem_cons_of_mem _ hy)) h

theorem run_ops (m : St) (ops : List Op) : ∀ x ∈ run m ops, x.1 ∈ ops := by
  induction ops generalizing m with
  | nil => intro x hx; simp [run] at hx
  | cons op r ih =>
    intro x hx
    simp only [run, List.mem_cons] at hx
    rcases hx with rfl | hx
    · exact List.mem_cons_self ..
    · exact List.mem_cons_of_mem _ (ih _ x hx)

theorem run_accepted (m : St) (c : C) (s : S) (h1 : R1 m c) (h2 : R2 c s) (ops : List Op) (hops : ∀ op ∈ ops, OpOk op) :
    accepts s (run m ops) = true :=
  compact_sound c s _ h2 (fun x hx => hops _ (run_ops _ _ x hx)) (run_accepted1 _ _ _ h1 hops)

/-- **C11 (main theorem).** For every page size, every request (so every size the constructor
accepts: any positive multiple of the page size, power of two or not, rounded up or not) and every
sequence of New/Claim/Commit/Consume/UsedSpace/FreeSpace/Full/Size/Reset/Prefault/Destroy calls,
writes through claims and reads of the double mapping, with non-negative amounts of any magnitude,
everything the implementation (index logic as translated from mirrored_buffer.go) answers is accepted
by the cell-queue monitor: a claim is `min n free` contiguous bytes inside the double mapping that
start at the ring position after the newest committed byte and touch no used cell; a commit appends
exactly `min n free` cells consecutively on the ring; a consume frees exactly the oldest
`min n used` cells; used + free = size. -/
theorem C11_ring_for_every_accepted_size (ops : List Op) (hops : ∀ op ∈ ops, OpOk op) :
    accepts dead (run Model.Mirrored.init ops) = true :=
  run_accepted _ cdead _ ⟨rfl, rfl, rfl, Or.inl ⟨rfl, rfl⟩⟩ R2_dead ops hops

/-- The same, stated for a buffer of an arbitrary positive size directly (no page size involved):
the index logic is a ring for EVERY `size > 0` whose double mapping `2 * size` is an `int`. -/
theorem C11_ring_for_every_positive_size (size : Int) (h0 : 0 < size) (h1 : 2 * size ≤ Go.I64MAX)
    (ops : List Op) (hops : ∀ op ∈ ops, OpOk op) :
    accepts (fresh size) (run (live size) ops) = true :=
  run_accepted _ (cfresh size) _ ⟨rfl, rfl, rfl, Or.inr ⟨mk size, rfl, inv_mk size h0 h1, rfl, rfl, rfl, rfl⟩⟩
    (R2_fresh size h0) ops hops

theorem inv_foldl (ops : List Op) (hops : ∀ op ∈ ops, OpOk op) : ∀ m c, R1 m c →
    ∀ b, (ops.foldl (fun m op => (Model.Mirrored.step m op).1) m).buf = some b → Inv b := by
  induction ops with
  | nil =>
    intro m c hR b hb
    rcases hR.2.2.2 with ⟨h1, _⟩ | ⟨b', h1, h2, _⟩
    · rw [List.foldl_nil, h1] at hb; exact absurd hb (by simp)
    · rw [List.foldl_nil, h1] at hb; rw [← Option.some.inj hb]; exact h2
  | cons op r ih =>
    intro m c hR b hb
    obtain ⟨c', _, h2⟩ := step_refines1 m c op hR (hops op (List.mem_cons_self ..))
    exact ih (fun o ho => hops o (List.mem_cons_of_mem _ ho)) _ c' h2 b hb

/-- The index invariant (`tail = (head + used) % size`, everything inside the ring) holds in every
reachable state, for every accepted size. -/
theorem C11_inv_reachable (ops : List Op) (hops : ∀ op ∈ ops, OpOk op) (b : MirroredBuffer)
    (h : (ops.foldl (fun m op => (Model.Mirrored.step m op).1) Model.Mirrored.init).buf = some b) : Inv b :=
  inv_foldl ops hops _ cdead ⟨rfl, rfl, rfl, Or.inl ⟨rfl, rfl⟩⟩ b h

def usedCells (b : MirroredBuffer) : List Int := ringCells b.size b.head b.used

/-- The form the monitors keep the used cells in. -/
theorem usedCells_back {b : MirroredBuffer} (hi : Inv b) : usedCells b = ringCells b.size (b.tail - b.used) b.used :=
  (ringCells_back _ hi.tail_emod).symm

/-- **A claim never aliases a committed-but-unconsumed byte**, stated outright on the translated
code: `Claim n` returns exactly `min n free` contiguous bytes inside the double mapping, starting
at `tail`, and no virtual position of the claim is (through the mirroring `v ↦ v % size`) one of
the used cells `head, head+1, …, head+used-1 (mod size)`. -/
theorem C11_claim_free (b : MirroredBuffer) (n : Int) (hi : Inv b) (hn : 0 ≤ n) :
    (b.Claim n).valid = true ∧
    (b.Claim n).hi - (b.Claim n).lo = imin n (b.size - b.used) ∧
    (0 < imin n (b.size - b.used) → (b.Claim n).lo = b.tail ∧ (b.Claim n).hi ≤ 2 * b.size) ∧
    ∀ c ∈ usedCells b, ∀ v ∈ cells (b.Claim n).lo ((b.Claim n).hi - (b.Claim n).lo), v % b.size ≠ c := by
  obtain ⟨hv, hk, hlo⟩ := claim_facts hi hn
  have hb := hi.bounds
  have hk1 := imin_le_right n (b.size - b.used)
  refine ⟨hv, hk, fun hp => ⟨hlo hp, by have := hlo hp; omega⟩, ?_⟩
  intro c hc v hv'
  by_cases hp : 0 < imin n (b.size - b.used)
  · rw [usedCells_back hi] at hc
    exact ring_disjoint (by omega) (by rw [hlo hp]) c hc v hv'
  · rw [hk, Sonic.Spec.Bip.cells_nonpos (by omega)] at hv'
    exact absurd hv' (by simp)

/-- **Successive commits occupy consecutive ring positions**: `Commit n` commits exactly
`k = min n free` bytes; the used cells afterwards are the used cells before followed by the `k`
cells behind the virtual positions `tail, tail+1, …` — the first `k` bytes of what `Claim` returns
in this state. -/
theorem C11_commit_consecutive (b : MirroredBuffer) (n : Int) (hi : Inv b) (hn : 0 ≤ n) :
    (b.Commit n).2 = imin n (b.size - b.used) ∧ Inv (b.Commit n).1 ∧
    (b.Commit n).1.size = b.size ∧
    usedCells (b.Commit n).1 = usedCells b ++ ringCells b.size b.tail (imin n (b.size - b.used)) := by
  have hinv := inv_commit hi hn
  obtain ⟨-, -, hu0, hu1, -⟩ := hi.bounds
  have hk0 : 0 ≤ imin n (b.size - b.used) := imin_nonneg hn (by omega)
  rw [Commit_eq hi hn] at hinv ⊢
  refine ⟨rfl, hinv, rfl, ?_⟩
  unfold usedCells
  dsimp only
  rw [← ringCells_append hu0 hk0]
  congr 1
  exact ringCells_congr _ hi.tail_emod.symm

/-- **Consuming frees exactly the oldest bytes**: `Consume n` frees `k = min n used` bytes and the
used cells afterwards are the used cells before without their first `k`. -/
theorem C11_consume_oldest (b : MirroredBuffer) (n : Int) (hi : Inv b) (hn : 0 ≤ n) :
    (b.Consume n).2 = imin n b.used ∧ Inv (b.Consume n).1 ∧
    (b.Consume n).1.size = b.size ∧ (b.Consume n).1.tail = b.tail ∧
    usedCells (b.Consume n).1 = (usedCells b).drop (imin n b.used).toNat := by
  have hinv := inv_consume hi hn
  obtain ⟨-, -, hu0, -⟩ := hi.bounds
  have hk0 : 0 ≤ imin n b.used := imin_nonneg hn hu0
  have hk1 := imin_le_right n b.used
  rw [Consume_eq hi hn] at hinv ⊢
  refine ⟨rfl, hinv, rfl, rfl, ?_⟩
  unfold usedCells
  dsimp only
  rw [drop_ringCells hk0 hk1]
  apply ringCells_congr
  rw [Int.emod_emod]

/-- **Used plus free space always equals the size** (and `Full` says exactly that nothing is free). -/
theorem C11_used_plus_free (b : MirroredBuffer) (hi : Inv b) :
    b.UsedSpace + b.FreeSpace = b.Size ∧ (b.Full = true ↔ b.FreeSpace = 0) ∧
    0 ≤ b.UsedSpace ∧ 0 ≤ b.FreeSpace ∧ (usedCells b).length = b.UsedSpace.toNat := by
  rw [FreeSpace_eq hi]
  have hb := hi.bounds
  unfold MirroredBuffer.UsedSpace MirroredBuffer.Size MirroredBuffer.Full usedCells
  rw [length_ringCells]
  simp only [decide_eq_true_eq]
  exact ⟨by omega, by omega, by omega, by omega, trivial⟩

/-- **The constructor's size arithmetic** (hand model `roundSize`, tied to the code by the
harness): an accepted request yields the smallest positive multiple of the page size that is at
least the request; requests that are not positive are rejected; every positive request that can be
rounded inside the `int` range is accepted. -/
theorem C11_size_rounding (page req : Int) (hp : 0 < page) (hp' : page ≤ Go.I64MAX) (hr : Go.InI64 req) :
    (∀ size, roundSize page req = some size → 0 < size ∧ size % page = 0 ∧ req ≤ size ∧ size < req + page) ∧
    (req ≤ 0 → roundSize page req = none) ∧
    (0 < req → req + page ≤ Go.I64MAX → ∃ size, roundSize page req = some size) := by
  refine ⟨fun size h => ?_, fun hneg => ?_, fun h1 h2 => roundSize_accepts hp h1 h2⟩
  · obtain ⟨f1, f2, f3, f4, _⟩ := roundSize_facts hp hp' hr h
    exact ⟨f1, f2, f3, f4⟩
  · cases h : roundSize page req with
    | none => rfl
    | some size =>
      obtain ⟨f1, f2, _, f4, _⟩ := roundSize_facts hp hp' hr h
      have := Int.le_of_dvd f1 (Int.dvd_of_emod_eq_zero f2)
      omega

/-! Non-vacuity: concrete non-trivial states and scripts meet the hypotheses, and the monitors do
reject wrong behaviour (so acceptance is not trivial). -/

-- a 3-cell ring (not a power of two) with the used cells wrapping around the end
example : Inv { size := 3, sizeMask := 2, head := 2, tail := 1, used := 2 } := by decide

example : ∀ op ∈ [Op.new 5 4, .claim 8, .commit 9223372036854775807, .consume 3, .read 0 4, .destroy], OpOk op := by
  decide

-- page size 4, request 9 (rounded up to 12 = 3 pages): fill, drain 5, claim across the end of the
-- ring, write through it, commit, read the same bytes back at the start of the ring
example : accepts dead (run Model.Mirrored.init
    [.new 9 4, .size, .commit 12, .full, .consume 5, .claim 7, .write 1, .commit 3, .used, .free,
     .read 0 3, .read 11 4, .consume 100, .claim 12, .destroy, .used]) = true := by
  decide +kernel

-- the reference monitor rejects: a claim over a used cell (what the 3-page defect did), a claim
-- that does not start behind the newest committed byte, a short grant, a wrong commit count, a
-- wrong used+free, a size that is not the next page multiple, a mapping that is still there
example : Spec.Mirrored.step { fresh 12 with q := [0, 1, 2, 3], next := 4 } (.claim 4) (.view 0 4) = none := by decide
example : Spec.Mirrored.step { fresh 12 with q := [0, 1, 2, 3], next := 4 } (.claim 4) (.view 5 4) = none := by decide
example : Spec.Mirrored.step { fresh 12 with q := [0, 1, 2, 3], next := 4 } (.claim 9) (.view 4 7) = none := by decide
example : Spec.Mirrored.step { fresh 12 with q := [0, 1, 2, 3], next := 4 } (.commit 9) (.int 9) = none := by decide
example : Spec.Mirrored.step { fresh 12 with q := [0, 1, 2, 3], next := 4 } .free (.int 9) = none := by decide
example : Spec.Mirrored.step dead (.new 9 4) (.created 16) = none := by decide
example : Spec.Mirrored.step (fresh 12) .destroy (.released true false) = none := by decide
-- … and so does the compact monitor on the same observations
example : cstep { cfresh 12 with used := 4, next := 4 } (.claim 4) (.view 0 4) = none := by decide
example : cstep { cfresh 12 with used := 4, next := 4 } (.claim 9) (.view 4 7) = none := by decide
-- the memory is one ring of cells: what is stored at virtual 13 of a 12-cell ring is read at virtual 1
example : load (store (zeros 12) 12 11 4 7) 12 0 3 = [8, 9, 10] := by decide

end Sonic.Props.C11
