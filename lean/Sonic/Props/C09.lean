/-
C09 — ByteBuffer behaves as three adjacent FIFO regions.

Theorems are about `Sonic.Model.ByteBuffer` (the hand-written model that mirrors byte_buffer.go method
by method, tied to the real code by the differential trace check) and the three-list monitor
`Sonic.Spec.ByteBuffer`.
-/
import Sonic.Lemmas.ByteBufferOps
import Sonic.Lemmas.ByteBufferHeld

namespace Sonic.Props.C09
open Sonic.Spec.ByteBuffer Sonic.Model.ByteBuffer

/-- What a call must satisfy (decidable on the abstract state).

* integer arguments are Go `int`s (`InI64`) — **every** such value is allowed;
* slots passed to `Discard`/`SavedSlot` lie inside the save area (`ValidSlot`; `Discard` ignores
  non-positive lengths whatever the index).  Slots are not integers and the code does not validate them;
* memory is finite: a call that grows the buffer keeps its length within `int`, the capacity `c` the
  runtime reports is an `int`, and `Reserve` does not ask for more than the allocator can ever provide
  (`BeyondAlloc`: growth > 2^48 — there `append` itself panics, leaving the buffer untouched). -/
def OpOk (s : S) (op : Op) (c : Int) : Prop :=
  match op with
  | .reserve n => Go.InI64 n ∧ Go.InI64 c ∧ ¬ BeyondAlloc s n ∧ s.len + n ≤ Go.I64MAX
  | .commit n | .consume n | .save n | .prepareRead n | .shrinkBy n | .shrinkTo n => Go.InI64 n
  | .discard idx len => len ≤ 0 ∨ ValidSlot s idx len
  | .savedSlot idx len => ValidSlot s idx len
  | .write bs | .writeString bs => Go.InI64 c ∧ s.len + bs.length ≤ Go.I64MAX
  | .writeByte _ => Go.InI64 c ∧ s.len + 1 ≤ Go.I64MAX
  | .claim n _ | .claimFixed n _ => Go.InI64 n
  | _ => True

instance (s : S) (op : Op) (c : Int) : Decidable (OpOk s op c) := by
  cases op <;> unfold OpOk <;> exact inferInstance

/-- The invariant the source file states: `0 ≤ si ≤ ri ≤ wi = len(data) ≤ cap(data)`. -/
def Inv (b : BB) : Prop :=
  0 ≤ b.si ∧ b.si ≤ b.ri ∧ b.ri ≤ b.wi ∧ b.wi = b.data.length ∧ b.wi ≤ b.cap ∧ b.cap ≤ Go.I64MAX

instance (b : BB) : Decidable (Inv b) := by unfold Inv; exact inferInstance

def abs (b : BB) : S :=
  { saved := b.bytes 0 b.si, readable := b.bytes b.si b.ri, pending := b.bytes b.ri b.wi, cap := b.cap }

theorem R_unique {b : BB} {s : S} (hR : R b s) : s = abs b := by
  obtain ⟨e1, e2, e3⟩ := bytes_R hR
  have h7 := hR.cap_eq
  have h8 := hR.not_void
  unfold abs
  rw [e1, e2, e3, ← h7]
  cases s
  simp only at h8
  rw [h8]

theorem R_abs {b : BB} (hi : Inv b) : R b (abs b) := by
  obtain ⟨h0, h1, h2, h3, h4, h5⟩ := hi
  obtain ⟨a, ha⟩ := Int.eq_ofNat_of_zero_le h0
  obtain ⟨a', ha'⟩ := Int.eq_ofNat_of_zero_le (Int.le_trans h0 h1)
  have haa : a ≤ a' := by omega
  have hal : a' ≤ b.data.length := by omega
  have l1 : ((b.data.take a).drop 0).length = a := by
    rw [List.drop_zero, List.length_take, Nat.min_eq_left (Nat.le_trans haa hal)]
  have l2 : ((b.data.take a').drop a).length = a' - a := by
    rw [List.length_drop, List.length_take, Nat.min_eq_left hal]
  have l3 : ((b.data.take b.data.length).drop a').length = b.data.length - a' := by
    rw [List.length_drop, List.length_take, Nat.min_self]
  unfold abs BB.bytes
  rw [ha, ha', h3, Int.toNat_zero, Int.toNat_natCast, Int.toNat_natCast, Int.toNat_natCast]
  refine ⟨?_, ?_, ?_, ?_, h3 ▸ h4, h5, rfl, rfl⟩
  · show b.si = ((b.data.take a).drop 0).length
    rw [l1, ha]
  · show b.ri = (((b.data.take a).drop 0).length : Int) + ((b.data.take a').drop a).length
    rw [l1, l2, ha']; omega
  · show b.wi = (((b.data.take a).drop 0).length : Int) + ((b.data.take a').drop a).length
        + ((b.data.take b.data.length).drop a').length
    rw [l1, l2, l3, h3]; omega
  · show b.data = (b.data.take a).drop 0 ++ (b.data.take a').drop a ++ (b.data.take b.data.length).drop a'
    have : b.data.take a = (b.data.take a').take a := by rw [List.take_take, Nat.min_eq_left haa]
    rw [List.drop_zero, List.take_of_length_le (Nat.le_refl _), this, List.take_append_drop, List.take_append_drop]

theorem R_samecap {b b' : BB} {s s1 : S} (hR : R b s) (hR' : R b' s1) : R b' { s1 with cap := b'.cap } :=
  R_cap hR' b'.cap hR'.wi_le_cap hR'.cap_le

def Good (b : BB) (s : S) (op : Op) (c : Int) : Prop :=
  ∃ b' s1 r, Model.ByteBuffer.step b op c = ok b' r ∧ eff s op = some (s1, r) ∧ R b' { s1 with cap := b'.cap } ∧
    (∀ d, b'.dump = some d → PostOk d op)

theorem post_triv {b' : BB} {op : Op} (h : ∀ n, op ≠ .reserve n) : ∀ d, b'.dump = some d → PostOk d op := by
  intro d _
  cases op <;> first | trivial | exact absurd rfl (h _)

theorem setcap_eq {b' : BB} {s1 : S} (hR : R b' s1) : ({ s1 with cap := b'.cap } : S) = s1 := by
  have := hR.cap_eq
  cases s1; simp only at this; subst this; rfl

theorem good_of {b b' : BB} {s s1 : S} {op : Op} {c : Int} {r : Ret} (hop : ∀ n, op ≠ .reserve n)
    (hstep : Model.ByteBuffer.step b op c = ok b' r) (heff : eff s op = some (s1, r)) (hR' : R b' s1) : Good b s op c :=
  ⟨b', s1, r, hstep, heff, R_cap hR' b'.cap hR'.wi_le_cap hR'.cap_le, post_triv hop⟩

theorem step_good {b : BB} {s : S} (hR : R b s) (op : Op) (c : Int) (hok : OpOk s op c) : Good b s op c := by
  cases op with
  | reserve n =>
    obtain ⟨h1, h2, h3, h4⟩ := hok
    obtain ⟨b', hb, hR', hp⟩ := reserve_spec hR n c h1 h2.2 h3 h4
    refine ⟨b', s, .unit, by dsimp only [Sonic.Model.ByteBuffer.step]; rw [hb], rfl, hR', ?_⟩
    intro d hd
    rw [dump_R hR'] at hd
    injection hd with hd; subst hd
    exact hp
  | commit n =>
    exact good_of nofun rfl rfl (commit_spec hR n)
  | consume n =>
    obtain ⟨b', hb, hR'⟩ := consume_spec hR n
    exact good_of nofun (by dsimp only [Sonic.Model.ByteBuffer.step]; rw [hb]) rfl hR'
  | save n =>
    obtain ⟨b', i, l, hb, hR', hret⟩ := save_spec hR n
    refine good_of nofun (by dsimp only [Sonic.Model.ByteBuffer.step]; rw [hb]) ?_ hR'
    dsimp only [eff]; rw [hret]
  | discard idx len =>
    by_cases hl : len ≤ 0
    · refine good_of (r := .int 0) nofun ?_ ?_ hR
      · dsimp only [Sonic.Model.ByteBuffer.step]; unfold BB.Discard; rw [if_pos hl]
      · dsimp only [eff]; rw [if_pos hl]
    · have hv : ValidSlot s idx len := by cases hok with | inl h => exact absurd h hl | inr h => exact h
      obtain ⟨b', hb, hR'⟩ := discard_spec hR idx len (by omega) hv
      refine good_of nofun (by dsimp only [Sonic.Model.ByteBuffer.step]; rw [hb]) ?_ hR'
      dsimp only [eff]; rw [if_neg hl, if_pos hv]
  | discardAll =>
    obtain ⟨b', hb, hR'⟩ := discardAll_spec hR
    exact good_of nofun (by dsimp only [Sonic.Model.ByteBuffer.step]; rw [hb]) rfl hR'
  | savedSlot idx len =>
    have hok : ValidSlot s idx len := hok
    have hb := savedSlot_spec hR idx len hok
    refine good_of nofun (by dsimp only [Sonic.Model.ByteBuffer.step]; rw [hb]) ?_ hR
    dsimp only [eff]; rw [if_pos hok]
  | reset =>
    obtain ⟨b', hb, hR'⟩ := reset_spec hR
    exact good_of nofun (by dsimp only [Sonic.Model.ByteBuffer.step]; rw [hb]) rfl hR'
  | read dstLen =>
    by_cases h0 : dstLen = 0
    · subst h0
      refine good_of nofun (by dsimp only [Sonic.Model.ByteBuffer.step]; rw [read_zero]) ?_ hR
      dsimp only [eff]; rw [if_pos rfl]
    · by_cases he : s.readable = []
      · refine good_of nofun (by dsimp only [Sonic.Model.ByteBuffer.step]; rw [read_eof hR dstLen h0 he]) ?_ hR
        dsimp only [eff]; rw [if_neg h0, if_pos he]
      · obtain ⟨b', hb, hR'⟩ := read_spec hR dstLen h0 he
        refine good_of nofun (by dsimp only [Sonic.Model.ByteBuffer.step]; rw [hb]) ?_ hR'
        dsimp only [eff]; rw [if_neg h0, if_neg he]
  | readByte =>
    cases hrd : s.readable with
    | nil =>
      refine good_of (r := .rb none .eof) nofun ?_ ?_ hR
      · dsimp only [Sonic.Model.ByteBuffer.step]; rw [read_eof hR 1 (by decide) hrd]; rfl
      · dsimp only [eff]; rw [hrd]
    | cons x xs =>
      obtain ⟨b', hb, hR'⟩ := read_spec hR 1 (by decide) (by rw [hrd]; simp)
      rw [hrd] at hb hR'
      refine good_of (r := .rb (some x) .nil) nofun ?_ ?_ hR'
      · dsimp only [Sonic.Model.ByteBuffer.step]; rw [hb]; rfl
      · dsimp only [eff]; rw [hrd]; rfl
  | readFrom n seed e =>
    by_cases he : e = .nil
    · subst he
      obtain ⟨b', hb, hR'⟩ := readFrom_ok hR n seed
      refine good_of nofun (by dsimp only [Sonic.Model.ByteBuffer.step]; rw [hb]) ?_ hR'
      dsimp only [eff]; rw [if_pos rfl]
    · refine good_of nofun (by dsimp only [Sonic.Model.ByteBuffer.step]; rw [readFrom_err hR n seed e he]) ?_ hR
      dsimp only [eff]; rw [if_neg he]
  | unreadByte =>
    by_cases hp : s.pending = []
    · refine good_of nofun (by dsimp only [Sonic.Model.ByteBuffer.step]; rw [unreadByte_eof hR hp]) ?_ hR
      dsimp only [eff]; rw [if_pos hp]
    · obtain ⟨b', hb, hR'⟩ := unreadByte_ok hR hp
      refine good_of nofun (by dsimp only [Sonic.Model.ByteBuffer.step]; rw [hb]) ?_ hR'
      dsimp only [eff]; rw [if_neg hp]
  | write bs | writeString bs =>
    obtain ⟨b', hb, hR'⟩ := append_spec hR bs c hok.1.2 hok.2
    exact ⟨b', { s with pending := s.pending ++ bs }, _, by dsimp only [Sonic.Model.ByteBuffer.step]; rw [hb], rfl, hR', post_triv nofun⟩
  | writeByte x =>
    obtain ⟨b', hb, hR'⟩ := append_spec hR [x] c hok.1.2 hok.2
    exact ⟨b', { s with pending := s.pending ++ [x] }, _, by dsimp only [Sonic.Model.ByteBuffer.step]; rw [hb], rfl, hR', post_triv nofun⟩
  | writeTo resps =>
    obtain ⟨b', hb, hR'⟩ := writeTo_spec hR resps
    exact good_of nofun (by dsimp only [Sonic.Model.ByteBuffer.step]; rw [hb]) rfl hR'
  | prepareRead n =>
    have hb := prepareRead_spec hR n hok
    by_cases h1 : n ≤ s.readable.length
    · refine good_of nofun (by dsimp only [Sonic.Model.ByteBuffer.step]; rw [hb, if_pos h1]) ?_ hR
      dsimp only [eff]; rw [if_pos h1]
    · by_cases h2 : n - s.readable.length ≤ s.pending.length
      · refine good_of nofun (by dsimp only [Sonic.Model.ByteBuffer.step]; rw [hb, if_neg h1, if_pos h2]) ?_ (commit_spec hR _)
        dsimp only [eff]; rw [if_neg h1, if_pos h2]
      · refine good_of nofun (by dsimp only [Sonic.Model.ByteBuffer.step]; rw [hb, if_neg h1, if_neg h2]) ?_ hR
        dsimp only [eff]; rw [if_neg h1, if_neg h2]
  | claim ret seed =>
    by_cases hfit : 0 ≤ ret ∧ ret ≤ s.room
    · obtain ⟨b', hb, hR'⟩ := claim_ok hR ret seed hfit
      refine good_of nofun (by dsimp only [Sonic.Model.ByteBuffer.step]; rw [hb]) ?_ hR'
      dsimp only [eff]; rw [if_pos hfit]
    · refine good_of nofun (by dsimp only [Sonic.Model.ByteBuffer.step]; rw [claim_rejected hR ret seed hfit]) ?_ hR
      dsimp only [eff]; rw [if_neg hfit]
  | claimFixed n seed =>
    by_cases hfit : 0 ≤ n ∧ n ≤ s.room
    · obtain ⟨b', hb, hR'⟩ := claimFixed_ok hR n seed hfit
      refine good_of nofun (by dsimp only [Sonic.Model.ByteBuffer.step]; rw [hb]) ?_ hR'
      dsimp only [eff]; rw [if_pos hfit]
    · refine good_of nofun (by dsimp only [Sonic.Model.ByteBuffer.step]; rw [claimFixed_rejected hR n seed hfit]) ?_ hR
      dsimp only [eff]; rw [if_neg hfit]
  | shrinkBy n =>
    obtain ⟨b', hb, hR'⟩ := shrinkBy_spec hR n
    exact good_of nofun (by dsimp only [Sonic.Model.ByteBuffer.step]; rw [hb]) rfl hR'
  | shrinkTo n =>
    obtain ⟨b', hb, hR'⟩ := shrinkTo_spec hR n hok
    exact good_of nofun (by dsimp only [Sonic.Model.ByteBuffer.step]; rw [hb]) rfl hR'

theorem step_refines {b : BB} {s : S} (hR : R b s) (op : Op) (c : Int) (hok : OpOk s op c) :
    ∃ s', Spec.ByteBuffer.step s op (Model.ByteBuffer.step b op c).2 = some s' ∧
          R (Model.ByteBuffer.step b op c).1 s' := by
  obtain ⟨b', s1, r, hstep, heff, hR', hpost⟩ := step_good hR op c hok
  have hd := dump_R hR'
  rw [hstep]
  unfold ok Spec.ByteBuffer.step
  rw [if_neg (by rw [hR.not_void]; simp)]
  dsimp only
  rw [hd]
  dsimp only
  rw [heff]
  dsimp only
  rw [if_pos ⟨rfl, ⟨rfl, rfl, rfl, rfl, Int.le_trans (Int.le_of_eq (wi_R hR').symm) hR'.wi_le_cap, rfl⟩, hpost _ hd⟩]
  exact ⟨_, rfl, hR'⟩

/-- Scripts whose every call meets `OpOk` in the state where it is made (decidable, computable). -/
def RunOk : BB → List (Op × Int) → Prop
  | _, [] => True
  | b, (op, c) :: r => OpOk (abs b) op c ∧ RunOk (Model.ByteBuffer.step b op c).1 r

instance instDecRunOk : (b : BB) → (ops : List (Op × Int)) → Decidable (RunOk b ops)
  | _, [] => isTrue trivial
  | b, (op, c) :: r =>
    have := instDecRunOk (Model.ByteBuffer.step b op c).1 r
    by unfold RunOk; exact inferInstance

theorem run_accepted (ops : List (Op × Int)) : ∀ (b : BB) (s : S), R b s → RunOk b ops →
    accepts s (run b ops) = true := by
  induction ops with
  | nil => intro b s _ _; rfl
  | cons oc r ih =>
    intro b s hR hok
    obtain ⟨op, c⟩ := oc
    obtain ⟨h1, h2⟩ := hok
    rw [← R_unique hR] at h1
    obtain ⟨s', hs, hR'⟩ := step_refines hR op c h1
    simp only [run, accepts, hs]
    exact ih _ _ hR' h2

/-- **C09 (main theorem, refinement).**  For every initial capacity and **every** sequence of calls of the
public API (Reserve, Commit, Consume, Save, Discard, DiscardAll, SavedSlot, Reset, Read, ReadByte,
ReadFrom, UnreadByte, Write, WriteByte, WriteString, WriteTo, PrepareRead, Claim, ClaimFixed, ShrinkBy,
ShrinkTo) with every `int` argument, every scripted behaviour of the callees and every capacity the
runtime may choose when it reallocates, the trace of the implementation model is accepted by the
three-list monitor: each call returns what the three lists say, afterwards the regions read back
exactly as the three lists (nothing lost, duplicated or reordered), readers see only readable bytes,
lengths add up, and nothing panics.  Hypothesis `RunOk`: valid slots, finite memory (see `OpOk`). -/
theorem C09_three_fifo_regions (c0 : Int) (h0 : 0 ≤ c0) (h1 : c0 ≤ Go.I64MAX)
    (ops : List (Op × Int)) (hok : RunOk (Model.ByteBuffer.new c0) ops) :
    accepts (Spec.ByteBuffer.init c0) (run (Model.ByteBuffer.new c0) ops) = true :=
  run_accepted ops _ _ ⟨rfl, rfl, rfl, rfl, h0, h1, rfl, rfl⟩ hok

/-- The same from any state satisfying the invariant. -/
theorem C09_refines (b : BB) (hi : Inv b) (ops : List (Op × Int)) (hok : RunOk b ops) :
    accepts (abs b) (run b ops) = true :=
  run_accepted ops _ _ (R_abs hi) hok

/-- **Invariant.** `0 ≤ si ≤ ri ≤ wi = len(data) ≤ cap` is preserved by every call, for every `int`
argument, every behaviour of the callee and every capacity chosen by the runtime. -/
theorem C09_inv (b : BB) (op : Op) (c : Int) (hi : Inv b) (hok : OpOk (abs b) op c) :
    Inv (Model.ByteBuffer.step b op c).1 := by
  obtain ⟨s', _, hR'⟩ := step_refines (R_abs hi) op c hok
  exact idx_R hR'

theorem inv_foldl (ops : List (Op × Int)) : ∀ b, Inv b → RunOk b ops →
    Inv (ops.foldl (fun b oc => (Model.ByteBuffer.step b oc.1 oc.2).1) b) := by
  induction ops with
  | nil => intro b hi _; exact hi
  | cons oc r ih =>
    intro b hi hr
    obtain ⟨op, c⟩ := oc
    exact ih _ (C09_inv b op c hi hr.1) hr.2

/-- The invariant holds in every reachable state. -/
theorem C09_inv_reachable (c0 : Int) (h0 : 0 ≤ c0) (h1 : c0 ≤ Go.I64MAX) (ops : List (Op × Int))
    (hok : RunOk (Model.ByteBuffer.new c0) ops) :
    Inv (ops.foldl (fun b oc => (Model.ByteBuffer.step b oc.1 oc.2).1) (Model.ByteBuffer.new c0)) :=
  inv_foldl ops _ ⟨Int.le_refl 0, Int.le_refl 0, Int.le_refl 0, rfl, h0, h1⟩ hok

/-- **No panic.** No call panics, and the buffer can be read back afterwards, for every `int` argument
(slots restricted to `ValidSlot`, `Reserve` to what the allocator can provide — see `OpOk`). -/
theorem C09_no_panic (b : BB) (op : Op) (c : Int) (hi : Inv b) (hok : OpOk (abs b) op c) :
    (Model.ByteBuffer.step b op c).2.ret ≠ none ∧ (Model.ByteBuffer.step b op c).2.dump ≠ none := by
  obtain ⟨b', s1, r, hstep, _, hR', _⟩ := step_good (R_abs hi) op c hok
  rw [hstep]; unfold ok; dsimp only
  rw [dump_R hR']
  exact ⟨by simp, by simp⟩

/-- **Effect and return value.** Each call's effect on `(saved, readable, pending)` and its return
value are exactly the specification's (`eff`: clamping = `take`/`drop`). -/
theorem C09_effect (b : BB) (op : Op) (c : Int) (hi : Inv b) (hok : OpOk (abs b) op c) :
    ∃ s1 r, eff (abs b) op = some (s1, r) ∧ (Model.ByteBuffer.step b op c).2.ret = some r ∧
      abs (Model.ByteBuffer.step b op c).1 = { s1 with cap := (Model.ByteBuffer.step b op c).1.cap } := by
  obtain ⟨b', s1, r, hstep, heff, hR', _⟩ := step_good (R_abs hi) op c hok
  refine ⟨s1, r, heff, by rw [hstep]; rfl, ?_⟩
  rw [hstep]; unfold ok; dsimp only
  exact (R_unique hR').symm

/-- **Lengths add up** in every state satisfying the invariant (hence in every reachable state):
`SaveLen + ReadLen + WriteLen = Len ≤ Cap` and `Reserved = Cap - Len`, read through the accessors. -/
theorem C09_lengths_add_up (b : BB) (hi : Inv b) :
    ∃ d, b.dump = some d ∧ (d.saved.length : Int) + d.readable.length + d.pending.length = d.len ∧
      d.len ≤ d.cap ∧ d.reserved = d.cap - d.len := by
  have hR := R_abs hi
  refine ⟨_, dump_R hR, rfl, ?_, rfl⟩
  show (abs b).len ≤ b.cap
  rw [← wi_R hR]; exact hR.wi_le_cap

/-- **Read values (1).** `ReadByte` returns the first readable byte and reports `EOF` iff nothing is
readable — whatever the save area and the write area hold. -/
theorem C09_readByte_value (b : BB) (c : Int) (hi : Inv b) :
    (Model.ByteBuffer.step b .readByte c).2.ret =
      some (match (abs b).readable with | [] => .rb none .eof | x :: _ => .rb (some x) .nil) := by
  obtain ⟨s1, r, heff, hret, _⟩ := C09_effect b .readByte c hi trivial
  rw [hret]
  dsimp only [eff] at heff
  cases hr : (abs b).readable with
  | nil => rw [hr] at heff; dsimp only at heff; injection heff with h; injection h with _ h2; rw [← h2]
  | cons x xs => rw [hr] at heff; dsimp only at heff; injection heff with h; injection h with _ h2; rw [← h2]

/-- **Read values (2).** `Read` into a non-empty destination returns exactly the readable prefix that
fits, and reports `EOF` iff nothing is readable. -/
theorem C09_read_value (b : BB) (n : Nat) (c : Int) (hi : Inv b) (hn : n ≠ 0) :
    (Model.ByteBuffer.step b (.read n) c).2.ret =
      some (if (abs b).readable = [] then .rd 0 [] .eof
            else .rd ((abs b).readable.take n).length ((abs b).readable.take n) .nil) := by
  obtain ⟨s1, r, heff, hret, _⟩ := C09_effect b (.read n) c hi trivial
  rw [hret]
  dsimp only [eff] at heff
  rw [if_neg hn] at heff
  by_cases he : (abs b).readable = []
  · rw [if_pos he] at heff; rw [if_pos he]; injection heff with h; injection h with _ h2; rw [← h2]
  · rw [if_neg he] at heff; rw [if_neg he]; injection heff with h; injection h with _ h2; rw [← h2]

/-- **Read values (3).** `WriteTo` hands the writer a prefix of the readable bytes, in order, returns
its length and consumes exactly that prefix. -/
theorem C09_writeTo_value (b : BB) (resps : List (Nat × Bool)) (c : Int) (hi : Inv b) :
    ∃ (L : Nat) (e : Err), L ≤ (abs b).readable.length ∧
      (Model.ByteBuffer.step b (.writeTo resps) c).2.ret = some (.wt L ((abs b).readable.take L) e) ∧
      (abs (Model.ByteBuffer.step b (.writeTo resps) c).1).readable = (abs b).readable.drop L := by
  obtain ⟨s1, r, heff, hret, habs⟩ := C09_effect b (.writeTo resps) c hi trivial
  obtain ⟨L, e, hL, hf, _⟩ := writeLoop_spec (R_abs hi) resps 0 (Nat.zero_le _)
  rw [List.drop_zero, List.take_zero] at hf
  dsimp only [eff] at heff
  rw [hf] at heff
  have hlen : ((abs b).readable.take L).length = L := by rw [List.length_take]; omega
  injection heff with h; injection h with h1 h2
  refine ⟨L, e, hL, ?_, ?_⟩
  · rw [hret, ← h2]; dsimp only; rw [hlen]
  · rw [habs, ← h1]; dsimp only; rw [hlen]

/-- **Saved bytes stay byte-identical until discarded**: only `Save` (which appends), `Discard`,
`DiscardAll` and `Reset` change the saved list — read off the specification. -/
theorem C09_saved_stable (s s1 : S) (op : Op) (r : Ret) (h : eff s op = some (s1, r))
    (hop : (∀ n, op ≠ .save n) ∧ (∀ i l, op ≠ .discard i l) ∧ op ≠ .discardAll ∧ op ≠ .reset) :
    s1.saved = s.saved := by
  obtain ⟨h1, h2, h3, h4⟩ := hop
  cases op with
  | save n => exact absurd rfl (h1 n)
  | discard i l => exact absurd rfl (h2 i l)
  | discardAll => exact absurd rfl h3
  | reset => exact absurd rfl h4
  -- these answer with `s` changed outside the save area, whatever their arguments
  | reserve _ | commit _ | consume _ | write _ | writeByte _ | writeString _ | writeTo _ | shrinkBy _ | shrinkTo _ =>
    cases h; rfl
  -- these choose between `s` itself and such an answer
  | read _ | readByte | readFrom _ _ _ | unreadByte | prepareRead _ | claim _ _ | claimFixed _ _ =>
    dsimp only [eff] at h
    repeat' split at h
    all_goals (cases h; rfl)
  -- an invalid slot has no effect to speak of
  | savedSlot _ _ =>
    dsimp only [eff] at h
    split at h
    · cases h; rfl
    · cases h

/-- **Uncommitted bytes are never visible to readers**: what `Read`, `ReadByte` and `WriteTo` return
and the readable list after them do not depend on the pending bytes — read off the specification. -/
theorem C09_pending_invisible (s : S) (p' : List UInt8) (op : Op)
    (hop : (∃ n, op = .read n) ∨ op = .readByte ∨ (∃ rs, op = .writeTo rs)) :
    (eff { s with pending := p' } op).map (fun x => (x.1.readable, x.2)) = (eff s op).map (fun x => (x.1.readable, x.2)) := by
  rcases hop with ⟨n, rfl⟩ | rfl | ⟨rs, rfl⟩
  · dsimp only [eff]
    by_cases h0 : n = 0
    · rw [if_pos h0, if_pos h0]; rfl
    · rw [if_neg h0, if_neg h0]
      by_cases he : s.readable = []
      · rw [if_pos he, if_pos he]; rfl
      · rw [if_neg he, if_neg he]; rfl
  · dsimp only [eff]; split <;> rfl
  · rfl

/-! ## What is *not* true (known finding `bytebuffer.reserve.alloc-limit`)

`OpOk` excludes `Reserve n` whose growth exceeds the allocator's limit.  Without that exclusion the
no-panic clause is false: the statement is kept visible and refuted by a concrete witness. -/

/-- "Reserve never panics, for every `int`" — the clause without the allocator exemption. -/
def C09_reserve_total : Prop :=
  ∀ (b : BB) (n c : Int), Inv b → Go.InI64 n → Go.InI64 c → (Model.ByteBuffer.step b (.reserve n) c).2.ret ≠ none

theorem C09_reserve_total_false : ¬ C09_reserve_total := by
  intro h
  exact h (Model.ByteBuffer.new 512) Go.I64MAX 512 (by decide) (by decide) (by decide) (by decide)

/-- …but such a `Reserve` leaves the buffer untouched (what the monitor demands of the exempted panic). -/
theorem C09_reserve_panic_untouched (b : BB) (n c : Int)
    (h : (Model.ByteBuffer.step b (.reserve n) c).2.ret = none) : (Model.ByteBuffer.step b (.reserve n) c).1 = b := by
  dsimp only [Model.ByteBuffer.step] at h ⊢
  split
  · rename_i b' hb; rw [hb] at h; exact absurd h (by simp [ok])
  · rfl

/-! ## Non-vacuity

A non-trivial reachable state meets the invariant; a script that exercises growth across reallocation,
clamping at both ends, a discard in the middle, hostile `int`s and scripted callees meets `RunOk`; the
monitor rejects wrong behaviour (so acceptance is not trivial). -/

example : Inv { si := 2, ri := 5, wi := 7, data := [1, 2, 3, 4, 5, 6, 7], cap := 512 } := by decide

def demo : List (Op × Int) :=
  [(.write [1, 2, 3, 4, 5, 6], 512), (.commit 4, 512), (.save 3, 512), (.discard 1 1, 512),
   (.consume Go.I64MAX, 512), (.commit Go.I64MIN, 512), (.prepareRead Go.I64MIN, 512), (.shrinkTo Go.I64MIN, 512),
   (.claimFixed Go.I64MAX 7, 512), (.claim 3 9, 512), (.reserve 600, 1024), (.write [8, 9], 1024),
   (.readFrom 5 1 .nil, 1024), (.commit 6, 1024), (.writeTo [(1, false), (0, true)], 1024), (.readByte, 1024),
   (.read 100, 1024), (.readByte, 1024), (.savedSlot 0 2, 1024), (.discardAll, 1024), (.reset, 1024)]

example : RunOk (Model.ByteBuffer.new 512) demo := by decide +kernel
example : accepts (Spec.ByteBuffer.init 512) (run (Model.ByteBuffer.new 512) demo) = true := by decide +kernel

-- the monitor rejects: an invented byte when only saved bytes exist (the defect repaired by 84f4631) …
example : Spec.ByteBuffer.step { saved := [1, 2], readable := [], pending := [], cap := 512 } .readByte
    { ret := some (.rb (some 0) .nil),
      dump := some { saved := [1, 2], readable := [], pending := [], len := 2, cap := 512, reserved := 510 } } = none := by
  decide
-- … a panic (the defect repaired by 117e551) …
example : Spec.ByteBuffer.step { saved := [], readable := [], pending := [1], cap := 512 } (.commit Go.I64MAX)
    { ret := none, dump := none } = none := by decide
-- … a Consume that loses a pending byte, a Discard that reorders saved bytes, an uncommitted byte shown to a reader
example : Spec.ByteBuffer.step { saved := [], readable := [1, 2], pending := [3], cap := 512 } (.consume 1)
    { ret := some .unit,
      dump := some { saved := [], readable := [2], pending := [], len := 1, cap := 512, reserved := 511 } } = none := by
  decide
example : Spec.ByteBuffer.step { saved := [1, 2, 3], readable := [], pending := [], cap := 512 } (.discard 0 1)
    { ret := some (.int 1),
      dump := some { saved := [3, 2], readable := [], pending := [], len := 2, cap := 512, reserved := 510 } } = none := by
  decide
example : Spec.ByteBuffer.step { saved := [], readable := [1], pending := [2], cap := 512 } (.read 4)
    { ret := some (.rd 2 [1, 2] .nil),
      dump := some { saved := [], readable := [], pending := [], len := 0, cap := 512, reserved := 512 } } = none := by
  decide
-- … and lengths that do not add up
example : Spec.ByteBuffer.step { saved := [], readable := [1], pending := [], cap := 512 } (.commit 0)
    { ret := some .unit,
      dump := some { saved := [], readable := [1], pending := [], len := 2, cap := 512, reserved := 510 } } = none := by
  decide

/-- **Held completion of a write-out**: with `Write`,
`WriteByte`, `WriteString` and `Commit` calls made while the `n` bytes of the read area are with the writer, the completion removes
exactly those bytes: they are still the first `n` readable bytes, what was committed meanwhile stays readable in order, the save
area is untouched — the same state as completing first and making the calls afterwards. -/
theorem C09_held_completion_commutes (ops : List Op) (s s1 : S) (n : Nat)
    (hops : ∀ op ∈ ops, Sonic.Lemmas.ByteBufferHeld.HeldOk op) (hn : n ≤ s.readable.length)
    (h : Sonic.Lemmas.ByteBufferHeld.runEff s ops = some s1) :
    Sonic.Lemmas.ByteBufferHeld.runEff (Sonic.Lemmas.ByteBufferHeld.completed s n) ops
        = some (Sonic.Lemmas.ByteBufferHeld.completed s1 n)
      ∧ s1.readable.take n = s.readable.take n ∧ s1.saved = s.saved :=
  Sonic.Lemmas.ByteBufferHeld.held_completion_commutes ops s s1 n hops hn h

end Sonic.Props.C09
