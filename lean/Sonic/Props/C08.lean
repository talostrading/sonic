/-
C08 — WebSocket ping/pong and closing handshake follow the RFC 6455 state machine.

Model: `Sonic.Model.WsStream` (codec/websocket/stream.go at frame granularity, blocking and asynchronous paths).
Monitor: `Sonic.Spec.WsStream` (RFC 6455 §5.5/§7 over the observable history).
All theorems quantify over every maximum message size and every sequence of peer events and local calls (no bound
on the length); the step theorems hold from every model state that meets their explicit hypotheses.
-/
import Sonic.Lemmas.WsFacts

namespace Sonic.Props.C08
open Sonic.Spec.WsStream Sonic.Model.WsStream Sonic.Lemmas.WsOut Sonic.Lemmas.WsRefine Sonic.Lemmas.WsFacts

/-- Usage precondition on a script: the application writes text/binary messages and does not send Close frames
through WriteFrame (`Lemmas.WsRefine.OpOk`). -/
def OpsOk (ops : List Op) : Prop := ∀ op ∈ ops, OpOk op

instance (ops : List Op) : Decidable (OpsOk ops) := by unfold OpsOk; exact inferInstance

theorem R_init (max : Nat) : R (new max) (init max) :=
  ⟨⟨rfl, rfl, rfl, rfl, rfl, rfl, rfl, fun _ => noClose_nil⟩, rfl, rfl⟩

theorem run_refines : ∀ (ops : List Op) {m : M} {s : S}, R m s → OpsOk ops →
    ∃ s', exec s (run m ops) = some s' ∧ accepts s (run m ops) = true ∧ R (final m ops) s'
  | [], _, s, hR, _ => ⟨s, rfl, rfl, hR⟩
  | op :: ops, m, s, hR, hok => by
    obtain ⟨s1, h1, hR1⟩ := step_refines m s op hR (hok op (by simp))
    obtain ⟨s', h2, h3, hR'⟩ := run_refines ops hR1 (fun o ho => hok o (by simp [ho]))
    refine ⟨s', ?_, ?_, ?_⟩
    · simp only [run, exec, h1]; exact h2
    · simp only [run, accepts, h1]; exact h3
    · simpa [final] using hR'

/-- **Main theorem.** For every maximum message size and every sequence of peer events {any frame — data, ping, pong,
valid or invalid close, every framing violation, frames over the maximum —, transport EOF, transport error} and local
calls {NextFrame, NextMessage, Write, WriteFrame, Flush, Close, blocking and asynchronous}, the RFC 6455 monitor accepts
everything the model of stream.go returns, reports through `State()`/`Pending()`, and puts on the wire. -/
theorem C08_refines (max : Nat) (ops : List Op) (h : OpsOk ops) :
    accepts (init max) (run (new max) ops) = true := by
  obtain ⟨_, _, hacc, _⟩ := run_refines ops (R_init max) h
  exact hacc

theorem accepts_no_panic {tr : List (Op × Obs)} : ∀ {s}, accepts s tr = true → ∀ x ∈ tr, x.2 ≠ Obs.panic := by
  induction tr with
  | nil => intro _ _ x hx; cases hx
  | cons y r ih =>
    obtain ⟨op, ob⟩ := y
    intro s hacc x hx
    rw [accepts] at hacc
    cases hs : Spec.WsStream.step s op ob with
    | none => rw [hs] at hacc; cases hacc
    | some s' =>
      rcases List.mem_cons.1 hx with rfl | hx
      · intro (hp : ob = .panic)
        rw [hp] at hs
        cases hs
      · rw [hs] at hacc
        exact ih hacc x hx

/-- No operation sequence makes the client panic. -/
theorem C08_no_panic (max : Nat) (ops : List Op) (h : OpsOk ops) :
    ∀ x ∈ run (new max) ops, x.2 ≠ Obs.panic :=
  accepts_no_panic (C08_refines max ops h)

/-- **At most one Close frame, and nothing after it.** In every reachable state the sequence `wire ++ pending`
(everything the client has written or queued) contains at most one Close frame and no frame at all behind it. This is
the clause that failed before commit ae6a367 (a violation received in `closedByUs` queued a second Close). -/
theorem C08_one_close_on_wire (max : Nat) (ops : List Op) (h : OpsOk ops) :
    ((out (final (new max) ops)).filter OutFrame.isClose).length ≤ 1 ∧
    ∀ pre x post, out (final (new max) ops) = pre ++ x :: post → x.isClose = true → post = [] := by
  obtain ⟨s', _, _, hR⟩ := run_refines ops (R_init max) h
  exact ⟨closeLast_count hR.1.cl, closeLast_nothing_after hR.1.cl⟩

/-- While the client is `active` no Close frame has been written or queued. -/
theorem C08_no_close_while_active (max : Nat) (ops : List Op) (h : OpsOk ops)
    (ha : (final (new max) ops).state = .active) : ∀ x ∈ out (final (new max) ops), x.isClose = false := by
  obtain ⟨s', _, _, hR⟩ := run_refines ops (R_init max) h
  exact hR.1.nc ha

/-- **`State()` reflects the stage.** After every history the monitor's stage (open / our Close is out / the peer's
Close was answered / our Close was acknowledged / aborted) and the reported state agree as tabulated by `stateOk`:
open ↔ `active`, closing ↔ `closedByUs`, peer-closed ↔ `closedByPeer`, acked ↔ `closeAcked`, aborted ↔ `terminated`;
in the two completed stages `terminated` is also reported once a read has returned end-of-stream (the asynchronous read
path sets it, the blocking one does not — both are in the model). The state is never `handshake`. -/
theorem C08_state_reflects (max : Nat) (ops : List Op) (h : OpsOk ops) :
    ∃ s, exec (init max) (run (new max) ops) = some s ∧
      stateOk s.stage s.ended (final (new max) ops).state = true ∧ (final (new max) ops).state ≠ .handshake := by
  obtain ⟨s', h1, _, hR⟩ := run_refines ops (R_init max) h
  refine ⟨s', h1, hR.1.st, ?_⟩
  intro hx
  have := hR.1.st
  rw [hx] at this
  cases hs : s'.stage <;> simp [stateOk, hs] at this

theorem stateOk_table (ended : Bool) (st : StreamState) :
    (stateOk .opened ended st = true ↔ st = .active) ∧
    (stateOk .closing ended st = true ↔ st = .closedByUs) ∧
    (stateOk .peerClosed ended st = true ↔ st = .closedByPeer ∨ (ended = true ∧ st = .terminated)) ∧
    (stateOk .acked ended st = true ↔ st = .closeAcked ∨ (ended = true ∧ st = .terminated)) ∧
    (stateOk .aborted ended st = true ↔ st = .terminated) := by
  cases st <;> cases ended <;> decide

/-- **Ping/Pong.** A conforming Ping read by NextFrame/AsyncNextFrame is delivered without error; while `active` exactly
one Pong with the identical payload is appended behind everything submitted before (so Pongs go out in arrival order),
otherwise nothing is appended. A conforming Pong is delivered and never answered. A message written afterwards is
appended behind, and `Write` leaves nothing pending: the Pong is on the wire ahead of it (this third clause is a fact about
`Write` on any `active` stream; with `m` the state after the Ping was read it says where the Pong ends up). -/
theorem C08_pong (m : M) (async : Bool) (f : InFrame) (rest : List InFrame) (hq : m.inq = f :: rest)
    (hr : canRead m = true) (hconf : isViolation f = false) (hmax : f.payload.length ≤ m.max) :
    (f.op = 9 → ∃ m', nextFrame async m = some (m', .nil, some f) ∧ m'.state = m.state ∧
        out m' = out m ++ (if m.state = .active then [pong f.payload] else [])) ∧
    (f.op = 10 → ∃ m', nextFrame async m = some (m', .nil, some f) ∧ m'.state = m.state ∧ out m' = out m) ∧
    (∀ ty payload, m.state = .active → payload.length ≤ m.max →
        out (write m ty payload).1 = out m ++ [{ fin := true, op := ty % 16, masked := true, payload := payload }] ∧
        (write m ty payload).1.pending = [] ∧ (write m ty payload).2 = .nil) := by
  have h := nextFrame_conform async hr hq hconf hmax
  refine ⟨fun h9 => ⟨_, h, ?_⟩, fun h10 => ⟨_, h, ?_⟩, fun ty payload ha hlen => ?_⟩
  · rw [conform_ping _ h9]
    by_cases ha : m.state = .active
    · rw [if_pos ha, if_pos (show (deq (flush m) rest).state = .active from ha)]
      exact ⟨rfl, (out_prepareWrite _ _).trans (congrArg (· ++ _) (out_flush m))⟩
    · rw [if_neg ha, if_neg (show ¬ (deq (flush m) rest).state = .active from ha), List.append_nil]
      exact ⟨rfl, out_flush m⟩
  · rw [conform_other _ (by omega) (by omega)]
    exact ⟨rfl, out_flush m⟩
  · rw [write_active ha ty hlen]
    exact ⟨(out_flush _).trans (out_prepareWrite _ _), rfl, rfl⟩

/-- Once the closing handshake is over (or the transport ended) reads report end-of-stream without consuming anything
and every application write is refused; `Close` reports an error too. Nothing is written or queued. -/
theorem closed_refuses (m : M) (hs : m.state = .closedByPeer ∨ m.state = .closeAcked ∨ m.state = .terminated) :
    (∀ async, ∃ m', nextFrame async m = some (m', .eof, none) ∧ m'.inq = m.inq ∧ out m' = out m) ∧
    (∀ ty p, (write m ty p).2 ≠ .nil ∧ (write m ty p).1 = m) ∧
    (∀ fin op p, writeFrame m fin op p = (m, .cancelled)) ∧
    (∀ code reason, close m code reason = (m, .eof)) := by
  have hcr : canRead m = false := by
    rcases hs with h | h | h <;> rw [canRead, h] <;> rfl
  have hna : m.state ≠ .active := by
    rcases hs with h | h | h <;> rw [h] <;> exact nofun
  refine ⟨fun async => ?_, write_inactive hna, writeFrame_inactive hna, fun code reason => ?_⟩
  · cases async <;> exact ⟨_, nextFrame_gated _ hcr, rfl, out_flush m⟩
  · unfold close
    rcases hs with h | h | h <;> rw [h]

/-- **Close from the peer.** A conforming Close read while `active` is delivered without error, the state becomes
`closedByPeer`, and exactly one Close frame is appended whose status code is the peer's (1000 if it carried none, 1002 if
its payload was invalid: one byte, a code that may not be sent, a reason that is not UTF-8). From then on
`closed_refuses` applies: reads report end-of-stream, writes are refused. -/
theorem C08_peer_close (m : M) (async : Bool) (f : InFrame) (rest : List InFrame) (hq : m.inq = f :: rest)
    (ha : m.state = .active) (hconf : isViolation f = false) (hop : f.op = 8) (hmax : f.payload.length ≤ m.max) :
    ∃ m' reply, nextFrame async m = some (m', .nil, some f) ∧ m'.state = .closedByPeer ∧
      out m' = out m ++ [reply] ∧ reply.fin = true ∧ reply.op = 8 ∧ reply.masked = true ∧
      reply.payload.take 2 = u16 (replyCode f.payload) ∧
      (replyCode f.payload = if f.payload = [] then 1000
        else if f.payload.length < 2 ∨ utf8Valid (f.payload.drop 2) = false ∨
          validCloseCode (closeCodeOf f.payload) = false then 1002 else closeCodeOf f.payload) := by
  have hr : canRead m = true := by rw [canRead, ha]; rfl
  have h := nextFrame_conform async hr hq hconf hmax
  rw [conform_close_active (m := deq (flush m) rest) hop ha] at h
  refine ⟨_, { fin := true, op := 8, masked := true, payload := replyPayload f.payload }, h, rfl,
    (out_prepareWrite _ _).trans (congrArg (· ++ _) (out_flush m)), rfl, rfl, rfl, reply_match f.payload, ?_⟩
  unfold replyCode
  by_cases h0 : f.payload = []
  · rw [h0]; rfl
  · have hl : f.payload.length ≠ 0 := fun hx => h0 (List.eq_nil_of_length_eq_zero hx)
    rw [if_neg hl, if_neg h0]
    by_cases h1 : f.payload.length < 2
    · rw [if_pos h1, if_pos (.inl h1)]
    · cases h2 : utf8Valid (f.payload.drop 2) <;> cases h3 : validCloseCode (closeCodeOf f.payload) <;> simp [h1]

/-- **Close started locally.** `Close`/`AsyncClose` on an `active` stream appends exactly one Close frame with the given
code and reason, flushes, and moves to `closedByUs`. In `closedByUs` application writes and a second `Close` are
refused while reads continue: a conforming data frame is still delivered, a Ping is delivered but not answered, and the
peer's Close completes the handshake (`closeAcked`) without a second Close frame. -/
theorem C08_local_close (m : M) :
    (m.state = .active → ∀ code reason,
      (close m code reason).2 = .nil ∧ (close m code reason).1.state = .closedByUs ∧
      (close m code reason).1.pending = [] ∧
      out (close m code reason).1 = out m ++ [{ fin := true, op := 8, masked := true, payload := u16 code ++ reason }]) ∧
    (m.state = .closedByUs →
      (∀ ty p, (write m ty p).2 ≠ .nil ∧ (write m ty p).1 = m) ∧
      (∀ fin op p, writeFrame m fin op p = (m, .cancelled)) ∧
      (∀ code reason, close m code reason = (m, .cancelled)) ∧
      (∀ async f rest, m.inq = f :: rest → isViolation f = false → f.payload.length ≤ m.max →
        ∃ m', nextFrame async m = some (m', .nil, some f) ∧ out m' = out m ∧
          m'.state = (if f.op = 8 then .closeAcked else .closedByUs))) := by
  constructor
  · intro ha code reason
    rw [close_active ha]
    exact ⟨rfl, rfl, rfl, (out_flush _).trans (out_prepareWrite _ _)⟩
  · intro hc
    have hna : m.state ≠ .active := by rw [hc]; exact nofun
    refine ⟨write_inactive hna, writeFrame_inactive hna, fun code reason => by unfold close; rw [hc], ?_⟩
    intro async f rest hq hconf hmax
    have h := nextFrame_conform async (by rw [canRead, hc]; rfl) hq hconf hmax
    refine ⟨_, h, ?_⟩
    by_cases h8 : f.op = 8
    · rw [conform_close_closing (m := deq (flush m) rest) h8 hc, if_pos h8]
      exact ⟨out_flush m, rfl⟩
    · have : conform (deq (flush m) rest) f = deq (flush m) rest := by
        by_cases h9 : f.op = 9
        · rw [conform_ping _ h9, if_neg (show ¬ (deq (flush m) rest).state = .active from hna)]
        · exact conform_other _ h9 h8
      rw [this, if_neg h8]
      exact ⟨out_flush m, hc⟩

/-- **Unexpected end of the transport.** When the transport ends while the closing handshake is not complete, the
frame API returns `EOF` together with a Close frame carrying 1006 (which is *not* sent), the message API returns `EOF`,
the state becomes `terminated`, and nothing is written. -/
theorem C08_abnormal (m : M) (async : Bool) (hr : canRead m = true) (hq : m.inq = []) (he : m.rerr = false)
    (heof : m.eof = true) :
    (∃ m', nextFrame async m = some (m', .eof, some close1006) ∧ m'.state = .terminated ∧ out m' = out m) ∧
    close1006.op = 8 ∧ close1006.payload = u16 1006 ∧
    (∀ buf fuel a, ∃ m', nextMessage async buf (fuel + 1) m a = some (m', .eof, a) ∧ m'.state = .terminated ∧
      out m' = out m) := by
  have hnf : nextFrame async m = some ({ flush m with state := .terminated }, .eof, some close1006) := by
    rw [nextFrame_empty async hr hq, he, heof]; rfl
  exact ⟨⟨_, hnf, rfl, out_flush m⟩, rfl, rfl, fun buf fuel a => ⟨_, nextMessage_stop hnf nofun, rfl, out_flush m⟩⟩

/-! ## Non-vacuity -/

/-- A script that meets `OpsOk`, reaches every part of the machine, and whose trace the monitor accepts (by the
theorem) — computed here as well. -/
def demo : List Op :=
  [.peer { fin := true, rsv := 0, op := 9, masked := false, payload := [1, 2] }, .nextFrame false,
   .write false 1 [104, 105],
   .close true 1000 [],
   .peer { fin := true, rsv := 4, op := 1, masked := false, payload := [0] }, .nextMsg true 8,
   .peer { fin := true, rsv := 0, op := 8, masked := false, payload := u16 1000 }, .nextFrame true, .nextFrame false]

example : OpsOk demo := by decide
example : accepts (init 16) (run (new 16) demo) = true := by decide +kernel
example : (final (new 16) demo).state = .closeAcked := by decide +kernel
example : out (final (new 16) demo) =
    [pong [1, 2], { fin := true, op := 1, masked := true, payload := [104, 105] },
     { fin := true, op := 8, masked := true, payload := u16 1000 }] := by decide +kernel

/-- The monitor is not trivially accepting: the pre-ae6a367 behaviour (a second Close queued after a violation in
`closedByUs`) is rejected, as are an unanswered Ping, an answered Pong and a wrong close code. -/
example : accepts (init 16)
    [(.close false 1000 [], .ok (.call .nil) ⟨.closedByUs, 0, [{ fin := true, op := 8, masked := true, payload := u16 1000 }]⟩),
     (.peer { fin := true, rsv := 4, op := 1, masked := false, payload := [] }, .ok .none ⟨.closedByUs, 0, []⟩),
     (.nextFrame false, .ok (.frame (.proto .rsv) none) ⟨.closedByUs, 1, []⟩)] = false := by decide
example : accepts (init 16)
    [(.peer { fin := true, rsv := 0, op := 9, masked := false, payload := [7] }, .ok .none ⟨.active, 0, []⟩),
     (.nextFrame false, .ok (.frame .nil (some { fin := true, rsv := 0, op := 9, masked := false, payload := [7] }))
        ⟨.active, 0, []⟩)] = false := by decide
example : accepts (init 16)
    [(.peer { fin := true, rsv := 0, op := 10, masked := false, payload := [7] }, .ok .none ⟨.active, 0, []⟩),
     (.nextFrame false, .ok (.frame .nil (some { fin := true, rsv := 0, op := 10, masked := false, payload := [7] }))
        ⟨.active, 1, []⟩)] = false := by decide +kernel
example : accepts (init 16)
    [(.peer { fin := true, rsv := 0, op := 8, masked := false, payload := u16 1001 }, .ok .none ⟨.active, 0, []⟩),
     (.nextFrame false, .ok (.frame .nil (some { fin := true, rsv := 0, op := 8, masked := false, payload := u16 1001 }))
        ⟨.closedByPeer, 1, []⟩),
     (.flush false, .ok (.call .nil) ⟨.closedByPeer, 0, [{ fin := true, op := 8, masked := true, payload := u16 1000 }]⟩)]
    = false := by decide

end Sonic.Props.C08
