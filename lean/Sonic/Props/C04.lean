/-
C04 — Timer guarantees: never early, at most once, never after cancel (the state-machine part, on the loop model).

`timer.go` / `internal/timer_linux.go` are modelled inside `Sonic.Model.Loop`: state ∈ {ready, scheduled, closed},
the `cancelled` flag, the read interest of the timer slot, the continuation that re-arms a repeating schedule.
Proved: the interest is registered exactly while the state is `scheduled` (so `Scheduled()` tells whether a
callback is still due); scheduling while scheduled or closed fails and changes nothing; a firing clears the
interest before the callback runs and a one-shot schedule is not re-armed; a successful `Cancel` leaves no interest
and stops a repeating schedule even from inside its own callback; a closed timer stays closed.  "Never before the
delay" and "fires once the delay has passed" are `timerfd` behaviour: checked on the real loop (monotonic clock
at the scheduling call vs. callback entry; drain phase), not proven.  A firing leaves the count of successful Cancels
alone and `Cancel` moves it (`C04_fire_keeps_cancel_count`, `C04_cancel_marks_running_repeat`); at the API level, `Cancel`
and `Close` clear the ledger's entry of the timer (`C04_cancel_clears_ledger`, `C04_close_clears_ledger`).
-/
import Sonic.Lemmas.LoopTimer
import Sonic.Props.Ledger

namespace Sonic.Props.C04
open Sonic.Model.Loop
open Sonic.Spec.Loop (Ev Ret Res OpKind ObjKind maxDispatch)

/-- **Scheduled() ↔ a callback is still due.** In every reachable state, for every timer, the read interest (the
only thing that can make the poller run the timer's callback) is registered exactly when the state is `scheduled`. -/
theorem C04_scheduled_flag (evs : List Ev) (w : World) (h : run {} evs = some w) (o : Obj) (hm : o ∈ w.objs)
    (hk : o.kind = .timer) : o.evR = (o.tstate == .scheduled) ∧ o.evW = false :=
  run_invariant step_timer timer_init h o hm hk

/-- **A timer holds at most one schedule; a closed timer cannot be revived.** `Schedule*` on a timer that is not
`ready` (scheduled or closed) can only return an error, and leaves every object, the pending count and the post
queue unchanged. -/
theorem C04_single_schedule (w w' : World) (op k : Nat) (rep : Bool) (ticks : Int) (rest : List K) (isNil : Bool) (o : Obj)
    (hst : w.stack = .schedCall op k rep ticks false :: rest) (hg : getObj w k = some o) (hns : o.tstate ≠ .ready)
    (hs : step w (.ret (.err isNil)) = some w') :
    isNil = false ∧ w'.objs = w.objs ∧ w'.pending = w.pending ∧ w'.posts = w.posts := by
  unfold step at hs
  simp only [hst, hg] at hs
  have h1 : (o.tstate != TState.ready) = true := by simpa using hns
  simp only [Bool.false_eq_true, if_false, h1, Bool.or_true, if_true] at hs
  obtain ⟨hn, hs⟩ := of_ite_none hs
  cases hs
  exact ⟨by simpa using hn, rfl, rfl, rfl⟩

/-- The inline (zero-delay) path is closed to a timer that is not ready, too. -/
theorem C04_no_inline_unless_ready (w : World) (op k : Nat) (rep : Bool) (ticks : Int) (rest : List K) (o : Obj)
    (op' : Nat) (res : Res) (n : Int) (data : List UInt8) (early : Bool)
    (hst : w.stack = .schedCall op k rep ticks false :: rest) (hg : getObj w k = some o) (hns : o.tstate ≠ .ready) :
    step w (.enter op' res n data early) = none := by
  unfold step
  simp only [hst, hg]
  have h1 : (o.tstate == TState.ready) = false := by simpa using hns
  simp [h1]

theorem tcancel_ret {w w' : World} {k : Nat} {rest : List K} {isNil : Bool} {o : Obj}
    (hst : w.stack = .tcancelCall k :: rest) (hg : getObj w k = some o) (hopen : o.tstate ≠ .closed)
    (hs : step w (.ret (.err isNil)) = some w') :
    getObj w' k = some { o with evR := false, cancelled := true, cancels := o.cancels + 1, tstate := .ready } := by
  unfold step at hs
  simp only [hst, hg] at hs
  have h1 : (o.tstate == TState.closed) = false := by simpa using hopen
  replace hs := (of_ite_none hs).2
  simp only [h1, Bool.false_eq_true, if_false] at hs
  cases hs
  exact getObj_setObj (w := unsetPending w o) _ hg rfl

/-- **Never after a successful Cancel.** `Cancel` on an open timer removes the interest, makes the timer ready and
records the cancellation (which stops a repeating schedule whose callback is running). -/
theorem C04_cancel_disarms (w w' : World) (k : Nat) (rest : List K) (isNil : Bool) (o : Obj)
    (hst : w.stack = .tcancelCall k :: rest) (hg : getObj w k = some o) (hopen : o.tstate ≠ .closed)
    (hs : step w (.ret (.err isNil)) = some w') :
    ∃ o', getObj w' k = some o' ∧ o'.evR = false ∧ o'.tstate = .ready ∧ o'.cancelled = true :=
  ⟨_, tcancel_ret hst hg hopen hs, rfl, rfl, rfl⟩

/-- `Cancel` on a closed timer changes nothing: closed is final. -/
theorem C04_cancel_on_closed_is_noop (w w' : World) (k : Nat) (rest : List K) (isNil : Bool) (o : Obj)
    (hst : w.stack = .tcancelCall k :: rest) (hg : getObj w k = some o) (hcl : o.tstate = .closed)
    (hs : step w (.ret (.err isNil)) = some w') : w'.objs = w.objs ∧ w'.pending = w.pending := by
  unfold step at hs
  simp only [hst, hg, hcl] at hs
  replace hs := (of_ite_none hs).2
  cases hs
  exact ⟨rfl, rfl⟩

theorem pollDispatch_timer {w w' : World} {op : Nat} {rest : List K} {info : OpInfo} {o : Obj}
    (hop : getOp w op = some info) (ht : info.kind.isTimer = true) (hg : getObj w info.obj = some o)
    (h : pollDispatch w op rest = some w') :
    getObj w' info.obj = some { o with evR := false, tstate := .ready } ∧
    w'.stack = .user op (.timerDone o.id (info.kind == .timerRep) o.cancels) :: .pollCall true :: rest := by
  cases pollDispatch_sound h with
  | post hop' hkind => rw [hop] at hop'; cases hop'; rw [hkind] at ht; cases ht
  | timer hop' _ hobj =>
    rw [hop] at hop'; cases hop'
    rw [hg] at hobj; cases hobj
    exact ⟨getObj_setObj (w := { w with pending := w.pending - 1 }) _ hg rfl, rfl⟩
  | read hop' _ hnotimer => rw [hop] at hop'; cases hop'; rw [ht] at hnotimer; cases hnotimer
  | write hop' _ hnotimer => rw [hop] at hop'; cases hop'; rw [ht] at hnotimer; cases hnotimer

/-- **At most once per schedule.** When the poller fires a timer it clears the interest and the `scheduled` state
before the callback runs, so the same schedule cannot fire again (and `C04_once_not_rearmed`: after the callback of a
one-shot schedule nothing is re-armed). -/
theorem C04_fire_disarms (w w' : World) (op : Nat) (rest : List K) (info : OpInfo) (o : Obj)
    (hop : getOp w op = some info) (ht : info.kind.isTimer = true) (hg : getObj w info.obj = some o)
    (h : pollDispatch w op rest = some w') :
    ∃ o', getObj w' info.obj = some o' ∧ o'.evR = false ∧ o'.tstate = .ready :=
  ⟨_, (pollDispatch_timer hop ht hg h).1, rfl, rfl⟩

/-- A firing notes the number of successful Cancels so far in the continuation of the callback (`cancelsBefore :=
t.cancels` in the wrapper of a repeating schedule) and leaves the counter itself alone — also when the firing is that of
another schedule of the same timer in a poll nested inside the repeating callback.  That is why the model has a counter
and not a flag: a Cancel during the outer callback must not be forgotten when another schedule of the same timer fires in
a nested poll (corpus scripts cover the case). -/
theorem C04_fire_keeps_cancel_count (w w' : World) (op : Nat) (rest : List K) (info : OpInfo) (o : Obj)
    (hop : getOp w op = some info) (ht : info.kind.isTimer = true) (hg : getObj w info.obj = some o)
    (h : pollDispatch w op rest = some w') :
    (∃ o', getObj w' info.obj = some o' ∧ o'.cancels = o.cancels) ∧
    w'.stack = .user op (.timerDone o.id (info.kind == .timerRep) o.cancels) :: .pollCall true :: rest :=
  ⟨⟨_, (pollDispatch_timer hop ht hg h).1, rfl⟩, (pollDispatch_timer hop ht hg h).2⟩

theorem C04_once_not_rearmed (w : World) (op k cb : Nat) : applyAfter w op (.timerDone k false cb) = w := by
  simp only [applyAfter]
  cases getObj w k <;> simp

/-- **Cancelled from inside its own callback, a repeating schedule stops** — also when the callback went on to
schedule something else after the Cancel (which clears `cancelled`; the defect repaired by 313bd86): a successful
Cancel since the callback started (the counter moved) is enough. -/
theorem C04_cancel_inside_own_callback_stops (w : World) (op k cb : Nat) (o : Obj) (hg : getObj w k = some o)
    (hk : o.kind = .timer) (hc : o.cancelled = true ∨ o.cancels ≠ cb) :
    applyAfter w op (.timerDone k true cb) = setObj w { o with cancelled := false } := by
  rcases hc with hc | hc <;> simp [applyAfter, hg, hk, hc]

/-- `Cancel` moves the counter: every repeating callback of this timer that is running (however deeply nested) sees it. -/
theorem C04_cancel_marks_running_repeat (w w' : World) (k : Nat) (rest : List K) (isNil : Bool) (o : Obj)
    (hst : w.stack = .tcancelCall k :: rest) (hg : getObj w k = some o) (hopen : o.tstate ≠ .closed)
    (hs : step w (.ret (.err isNil)) = some w') :
    ∃ o', getObj w' k = some o' ∧ o'.cancels = o.cancels + 1 :=
  ⟨_, tcancel_ret hst hg hopen hs, rfl⟩

/-- A repeating schedule whose timer was closed (or re-scheduled) from inside its callback is not re-armed either. -/
theorem C04_closed_inside_own_callback_stops (w : World) (op k cb : Nat) (o : Obj) (hg : getObj w k = some o)
    (hc : o.cancelled = false) (hcr : o.cancels = cb) (hs : o.tstate ≠ .ready) :
    applyAfter w op (.timerDone k true cb) = w := by
  have h1 : (o.tstate == TState.ready) = false := by simpa using hs
  simp only [applyAfter, hg, hc, hcr, h1]
  simp

/-- Otherwise the repeating schedule continues: the timer is armed again for the same operation. -/
theorem C04_repeating_continues (w : World) (op k cb : Nat) (o : Obj) (hg : getObj w k = some o) (hk : o.kind = .timer)
    (hc : o.cancelled = false) (hcr : o.cancels = cb) (hs : o.tstate = .ready) :
    applyAfter w op (.timerDone k true cb) = armTimer w o op true := by
  simp [applyAfter, hg, hk, hc, hcr, hs]

/-- **Never after a successful Cancel / Close, for every history.** Every history of the model is accepted by the API-level
ledger (`Sonic.Props.Ledger.ledger_accepts_model`), which admits a callback only for an operation it owes; and when a
timer's `Cancel` (or `Close`) returns successfully the ledger owes no schedule of that timer any more — so a timer callback
entered later belongs to a schedule made after the Cancel. -/
theorem C04_cancel_clears_ledger (l l' : Sonic.Spec.Ledger.L) (k : Nat) (rest : List Sonic.Spec.Ledger.LFrame)
    (hst : l.stack = .tcancel k :: rest) (h : Sonic.Spec.Ledger.step l (.ret (.err true)) = some l') :
    ∀ r ∈ l'.owed, Sonic.Spec.Ledger.timerOn k r = false := by
  simp only [Sonic.Spec.Ledger.step, hst] at h
  have h' := Option.some.inj h
  rw [← h']
  intro r hr
  simp only [beq_self_eq_true, if_true, List.mem_filter, Bool.not_eq_true'] at hr
  exact hr.2

theorem C04_close_clears_ledger (l l' : Sonic.Spec.Ledger.L) (k : Nat) (rest : List Sonic.Spec.Ledger.LFrame)
    (hst : l.stack = .close k :: rest) (h : Sonic.Spec.Ledger.step l (.ret (.err true)) = some l') :
    ∀ r ∈ l'.owed, Sonic.Spec.Ledger.timerOn k r = false := by
  simp only [Sonic.Spec.Ledger.step, hst] at h
  have h' := Option.some.inj h
  rw [← h']
  intro r hr
  simp only [beq_self_eq_true, if_true, List.mem_filter, Bool.not_eq_true', Bool.and_eq_false_imp] at hr
  unfold Sonic.Spec.Ledger.timerOn
  cases hk : (r.obj == k) with
  | false => rfl
  | true =>
    have := hr.2 hk
    simp only [bne_eq_false_iff_eq] at this
    rw [this]; rfl

/-- The model's histories are accepted by that ledger (documented usage). -/
theorem C04_ledger_accepts_model (evs : List Ev) (w : World) (h : run {} evs = some w) (hU : Sonic.Spec.Ledger.UsageOk {} evs) :
    Sonic.Spec.Ledger.accepts evs = true :=
  Sonic.Props.Ledger.ledger_accepts_model evs w h hU

/-! Non-vacuity: schedule, re-schedule while scheduled fails, fire, schedule repeating, cancel, close, cancel-after-close,
schedule fails. -/
example : ∃ w, run {} [.obj 1 .timer, .callSched 11 1 false 2, .ret (.err true), .callSched 12 1 false 2, .ret (.err false),
                       .callScheduled 1, .ret (.bool true), .callPoll, .enter 11 .timer 0 [] false, .exit 11, .ret (.poll 1 .ok),
                       .callScheduled 1, .ret (.bool false), .callSched 13 1 true 1, .ret (.err true),
                       .callTCancel 1, .ret (.err true), .callClose 1, .ret (.err true), .callTCancel 1, .ret (.err true),
                       .callSched 14 1 false 0, .ret (.err false)] = some w ∧ w.pending = 0 := ⟨_, rfl, by decide⟩

end Sonic.Props.C04
