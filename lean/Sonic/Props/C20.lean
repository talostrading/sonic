/-
C20 — Out-of-order slot retrieval addresses exactly the bytes saved.

Theorems are stated about the hand-written model `Sonic.Model.Slots` (Fenwick tree, offsetter,
sorted container, sequencer, the save area of the buffer; `OffsetSlot` is the definition
regenerated from slot.go) and about the abstract monitor `Sonic.Spec.Slots` (a finite map
`sequence number ↦ bytes` of parked packets).
-/
import Sonic.Lemmas.SlotsFacts

namespace Sonic.Props.C20
open Sonic.Gen.Slot Sonic.Spec.Slots Sonic.Model.Slots Sonic.Lemmas.Fenwick Sonic.Lemmas.SlotsFacts

/-! ## Refinement: the implementation model is accepted by the parked-packets monitor -/

/-- Coupling between implementation state and monitor state: there is a description `G` of the
parked packets (with the original indices the offsetter stored for them) and an array `a` of
discarded lengths such that the buffer holds exactly the parked packets followed by the readable
bytes, and the sequencer's container and tree describe `G` and `a`. -/
def R (m : St) (s : S) : Prop :=
  ∃ (a : Nat → Int) (G : List GE),
    s.maxSlots = m.sq.maxSlots ∧ s.maxBytes = m.sq.maxBytes ∧ s.parked = toParked G ∧
    s.gone = psum a m.sq.tree.length ∧ BufOk m.buf (flat s.parked) s.readable ∧ IdxOk m.sq a G

/-- The sequencer stream: packets of every size (empty ones included), any `Save` argument, any
sequence numbers, any order. -/
def OpOk : Op → Prop
  | .park _ _ _ => True
  | .take _ => True
  | .resetAll => True
  | _ => False
instance : (op : Op) → Decidable (OpOk op)
  | .park _ _ _ => by unfold OpOk; exact inferInstance
  | .take _ => by unfold OpOk; exact inferInstance
  | .add _ _ => by unfold OpOk; exact inferInstance
  | .off _ => by unfold OpOk; exact inferInstance
  | .reset => by unfold OpOk; exact inferInstance
  | .resetAll => by unfold OpOk; exact inferInstance

/-- The configuration: limits are non-negative Go `int`s. -/
def CfgOk (_maxSlots maxBytes : Int) : Prop := 0 ≤ maxBytes ∧ maxBytes ≤ Go.I64MAX
instance (a b : Int) : Decidable (CfgOk a b) := by unfold CfgOk; exact inferInstance

/-- `Bytes()`, `Size()` and `Saved()` equal the parked totals. -/
theorem C20_totals (m : St) (s : S) (hR : R m s) :
    m.sq.bytes = (flat s.parked).length ∧ m.sq.size = s.parked.length ∧ m.buf.saved = flat s.parked := by
  obtain ⟨a, G, _, _, hpk, _, hbuf, hidx⟩ := hR
  refine ⟨by rw [hidx.bytes, hpk]; rfl, ?_, saved_of_bufOk hbuf⟩
  unfold Seqr.size; rw [hidx.len, hpk, toParked_length]

theorem dup_iff (s : S) (G : List GE) (hp : s.parked = toParked G) (hn : G.Pairwise (fun g1 g2 => g1.seq ≠ g2.seq))
    (seq : Int) : Dup s seq ↔ ∃ g ∈ G, g.seq = seq := by
  unfold Dup
  rw [hp]
  constructor
  · intro h
    apply Classical.byContradiction
    intro hno
    rw [lookup_toParked_none G seq hno] at h
    cases h
  · rintro ⟨g, hg, rfl⟩
    obtain ⟨G1, G2, rfl⟩ := List.append_of_mem hg
    exact congrArg Option.isSome (lookup_keyed_some _ G1 G2 g (nodup_unique hn).1)

/-- The offsetter refuses a slot whose index, with everything discarded added, reaches its size: the
monitor's index space is then used up. -/
theorem indexSpace_of_sidx {s : S} {G : List GE} {pkt : Bytes} {gone : Int} (hpk : s.parked = toParked G)
    (hgone : s.gone = gone) (h : sidx G pkt + gone ≥ s.maxBytes) : IndexSpaceUsedUp s := by
  unfold IndexSpaceUsedUp
  rw [hpk, hgone]
  exact Int.le_trans h (Int.add_le_add_right (sidx_le G pkt).2 gone)

theorem spec_park (s : S) {seq : Int} {bytes : Bytes} {n i l : Int} {ok err : Bool} {total size : Int} {saved : Bytes}
    (h1 : PushOk s seq (saveLen n (s.readable ++ bytes).length) ok err)
    (h2 : Totals (if ok = true then s.parked ++ [(seq, (s.readable ++ bytes).take (saveLen n (s.readable ++ bytes).length))]
      else s.parked) total size saved) :
    Spec.Slots.step s (.park seq bytes n) (.park i l ok err total size saved) =
      some { s with readable := (s.readable ++ bytes).drop (saveLen n (s.readable ++ bytes).length),
                    parked := if ok = true
                      then s.parked ++ [(seq, (s.readable ++ bytes).take (saveLen n (s.readable ++ bytes).length))]
                      else s.parked } := by
  unfold Spec.Slots.step
  dsimp only
  rw [if_pos ⟨h1, h2⟩]

theorem spec_take_miss (s : S) {seq i l : Int} {ad : Option Bytes} {total size : Int} {saved : Bytes}
    (h0 : s.parked.lookup seq = none) (h1 : Totals s.parked total size saved) :
    Spec.Slots.step s (.take seq) (.take false i l ad total size saved) = some s := by
  unfold Spec.Slots.step
  dsimp only
  rw [h0]
  rw [if_pos ⟨rfl, h1⟩]

theorem spec_take_hit (s : S) {seq i l : Int} {ad : Option Bytes} {total size : Int} {saved pkt : Bytes}
    (h0 : s.parked.lookup seq = some pkt) (h1 : Addresses s.parked pkt i l ad)
    (h2 : Totals (without s.parked seq) total size saved) :
    Spec.Slots.step s (.take seq) (.take true i l ad total size saved) =
      some { s with parked := without s.parked seq,
                    gone := if without s.parked seq = [] then 0 else s.gone + pkt.length } := by
  unfold Spec.Slots.step
  dsimp only
  rw [h0]
  dsimp only
  rw [if_pos ⟨rfl, h1, h2⟩]

/-- `Write; Commit; Save; Push` (and `Discard` after a refused `Push`).  `k`, `pkt`, `rest` name
what `Save(n)` takes from the readable bytes once `bytes` are written, the packet cut off, and what stays readable; a
caller passes `rfl` for each. -/
theorem park_obs (m : St) (s : S) (seq : Int) (bytes : Bytes) (n : Int) (hR : R m s)
    {k : Nat} {pkt rest : Bytes} (hk : k = saveLen n (s.readable ++ bytes).length)
    (hp : pkt = (s.readable ++ bytes).take k) (hr : rest = (s.readable ++ bytes).drop k) :
    ∃ m' i l ok err, Model.Slots.step m (.park seq bytes n) = (m', .park i l ok err m'.sq.bytes m'.sq.size m'.buf.saved) ∧
      PushOk s seq k ok err ∧
      R m' { s with readable := rest, parked := if ok = true then s.parked ++ [(seq, pkt)] else s.parked } := by
  obtain ⟨a, G, c1, c2, hpk, hgone, hbuf, hidx⟩ := hR
  rw [hpk] at hbuf
  obtain ⟨hslot, hlen, hacc, b', r', hdis, hrej⟩ := feed_parked bytes n hbuf hk hp hr
  obtain ⟨q', ok, err, hpush, hfail, hsucc⟩ := push_spec hidx seq pkt
  rw [← hslot] at hpush
  have hgl : (flat s.parked).length = glen G := by rw [hpk]; rfl
  have hOB : (glen G : Int) + pkt.length > m.sq.maxBytes ↔ OverBytes s k := by
    unfold OverBytes; rw [hgl, c2, hlen]
  have hOS : (G.length : Int) ≥ m.sq.maxSlots ↔ OverSlots s := by
    unfold OverSlots; rw [hpk, toParked_length, c1]
  have hIS : sidx G pkt + psum a m.sq.tree.length ≥ m.sq.maxBytes → IndexSpaceUsedUp s :=
    fun hx => indexSpace_of_sidx hpk hgone (by rw [c2]; exact hx)
  have hdup := dup_iff s G hpk hidx.nodup seq
  cases ok with
  | false =>
    obtain ⟨rfl, herr, hsil⟩ := hfail rfl
    refine ⟨{ m with buf := b' }, (feed m.buf bytes n).2.Index, (feed m.buf bytes n).2.Length, false, err, ?_, ?_,
      a, G, c1, c2, hpk, hgone, by rw [hpk]; exact hrej, hidx⟩
    · unfold Model.Slots.step
      dsimp only
      rw [hpush]
      rw [if_neg Bool.false_ne_true, hdis]
    · exact ⟨nofun, fun he => ⟨rfl, (herr he).imp hOB.mp (Or.imp hOS.mp hIS)⟩, fun _ he => hdup.mpr (hsil he)⟩
  | true =>
    obtain ⟨rfl, hnd, hnb, hns, e1, e2, e3, o, _, hq'⟩ := hsucc rfl
    have hpk' : s.parked ++ [(seq, pkt)] = toParked (G ++ [⟨seq, o, pkt⟩]) := by
      rw [toParked_append, hpk]; rfl
    refine ⟨{ m with buf := (feed m.buf bytes n).1, sq := q' }, (feed m.buf bytes n).2.Index,
      (feed m.buf bytes n).2.Length, true, false, ?_, ?_,
      a, _, by rw [e2]; exact c1, by rw [e1]; exact c2, hpk', by rw [e3]; exact hgone, ?_, hq'⟩
    · unfold Model.Slots.step
      dsimp only
      rw [hpush]
      rw [if_pos rfl]
    · exact ⟨fun _ => ⟨rfl, fun hx => hnd (hdup.mp hx), fun hx => hnb (hOB.mpr hx), fun hx => hns (hOS.mpr hx)⟩,
        nofun, nofun⟩
    · rw [hpk']; exact hacc _ _

theorem step_park (m : St) (s : S) (seq : Int) (bytes : Bytes) (n : Int) (hR : R m s) :
    ∃ s', Spec.Slots.step s (.park seq bytes n) (Model.Slots.step m (.park seq bytes n)).2 = some s' ∧
          R (Model.Slots.step m (.park seq bytes n)).1 s' := by
  obtain ⟨m', i, l, ok, err, hstep, hpush, hR'⟩ := park_obs m s seq bytes n hR rfl rfl rfl
  rw [hstep]
  exact ⟨_, spec_park s hpush (C20_totals _ _ hR'), hR'⟩

/-- `Pop` + `SavedSlot` + `Discard` of a parked packet, whatever was discarded before. -/
theorem take_hit (m : St) (s : S) (seq : Int) (pkt : Bytes) (hR : R m s) (hp : s.parked.lookup seq = some pkt) :
    ∃ q' b' r idx, m.sq.pop seq = some (q', ⟨idx, pkt.length⟩, true) ∧
      Addresses s.parked pkt idx pkt.length (m.buf.savedSlot ⟨idx, pkt.length⟩) ∧
      m.buf.discard ⟨idx, pkt.length⟩ = some (b', r) ∧
      R { m with buf := b', sq := q' }
        { s with parked := without s.parked seq, gone := if without s.parked seq = [] then 0 else s.gone + pkt.length } := by
  obtain ⟨a, G, c1, c2, hpk, hgone, hbuf, hidx⟩ := hR
  obtain ⟨g, hg, rfl⟩ : ∃ g ∈ G, g.seq = seq := Classical.byContradiction fun hno => by
    rw [hpk, lookup_toParked_none G seq hno] at hp; cases hp
  obtain ⟨G1, G2, rfl⟩ := List.append_of_mem hg
  obtain ⟨q', a', idx, hpop, hi1, hi2, hi3, hq', e1, e2, hps⟩ := pop_hit hidx
  rw [hpk] at hbuf hp ⊢
  obtain ⟨hlook, hrest, haddr, b', r', hdis, hbuf'⟩ :=
    parked_remove hbuf hidx.nodup hi1 hi2 hi3
  obtain rfl : g.bytes = pkt := Option.some.inj (hlook.symm.trans hp)
  refine ⟨q', b', r', idx, hpop, haddr, hdis, a', G1 ++ G2, by rw [e2]; exact c1, by rw [e1]; exact c2, hrest, ?_, ?_, hq'⟩
  · rw [hps, hrest, hgone]
    simp only [toParked, List.map_eq_nil_iff]
  · rw [hrest]; exact hbuf'

theorem step_take (m : St) (s : S) (seq : Int) (hR : R m s) :
    ∃ s', Spec.Slots.step s (.take seq) (Model.Slots.step m (.take seq)).2 = some s' ∧
          R (Model.Slots.step m (.take seq)).1 s' := by
  cases hl : s.parked.lookup seq with
  | some pkt =>
    obtain ⟨q', b', r', idx, hpop, haddr, hdis, hR'⟩ := take_hit m s seq pkt hR hl
    have hstep : Model.Slots.step m (.take seq) =
        ({ m with buf := b', sq := q' },
          .take true idx pkt.length (m.buf.savedSlot ⟨idx, pkt.length⟩) q'.bytes q'.size b'.saved) := by
      unfold Model.Slots.step
      dsimp only
      rw [hpop]
      dsimp only
      rw [if_pos rfl, hdis]
    rw [hstep]
    exact ⟨_, spec_take_hit s hl haddr (C20_totals _ _ hR'), hR'⟩
  | none =>
    -- `id`: `hR` itself stays, for the state that does not change
    obtain ⟨a, G, _, _, hpk, _, _, hidx⟩ := id hR
    have hin : ¬ ∃ g ∈ G, g.seq = seq := by
      intro hx
      have := (dup_iff s G hpk hidx.nodup seq).mpr hx
      unfold Dup at this; rw [hl] at this; cases this
    have hstep : Model.Slots.step m (.take seq) = (m, .take false 0 0 none m.sq.bytes m.sq.size m.buf.saved) := by
      unfold Model.Slots.step
      dsimp only
      rw [pop_miss hidx hin]
      dsimp only
      rw [if_neg Bool.false_ne_true]
    rw [hstep]
    exact ⟨s, spec_take_miss s hl (C20_totals m s hR), hR⟩

/-- `SlotSequencer.Reset()` with whatever is parked, followed by `DiscardAll()`: nothing is parked any more, the save
area is empty, what was only readable is still readable, and the sequencer is as good as new (coupled to the monitor
with no packet and no discarded prefix). -/
theorem step_resetAll (m : St) (s : S) (hR : R m s) :
    ∃ s', Spec.Slots.step s .resetAll (Model.Slots.step m .resetAll).2 = some s' ∧
          R (Model.Slots.step m .resetAll).1 s' := by
  obtain ⟨a, G, c1, c2, hpk, hgone, hbuf, hidx⟩ := hR
  obtain ⟨b, hb, hbok⟩ := discardAll_spec hbuf
  have hstep : Model.Slots.step m .resetAll = ({ m with buf := b, sq := m.sq.reset }, .unit) := by
    unfold Model.Slots.step
    rw [hb]
  rw [hstep]
  refine ⟨{ s with parked := [], gone := 0 }, rfl, fun _ => 0, [], c1, c2, rfl, (psum_zero _).symm, hbok, ?_⟩
  exact idxOk_empty _ hidx.nLo hidx.nHi
    (by show ((m.sq.tree.reset).length : Int) = _; rw [reset_length]; exact hidx.treeLen) rfl rfl (off_reset _)

/-- One workflow step of the implementation model is accepted by the monitor and preserves the coupling. -/
theorem step_refines (m : St) (s : S) (op : Op) (hR : R m s) (hop : OpOk op) :
    ∃ s', Spec.Slots.step s op (Model.Slots.step m op).2 = some s' ∧ R (Model.Slots.step m op).1 s' := by
  cases op with
  | park seq bytes n => exact step_park m s seq bytes n hR
  | take seq => exact step_take m s seq hR
  | add _ _ => exact absurd hop id
  | off _ => exact absurd hop id
  | reset => exact absurd hop id
  | resetAll => exact step_resetAll m s hR

theorem accepts_of_sim {Rel : St → S → Prop} {P : Op → Prop}
    (hstep : ∀ m s op, Rel m s → P op →
      ∃ s', Spec.Slots.step s op (Model.Slots.step m op).2 = some s' ∧ Rel (Model.Slots.step m op).1 s')
    {ops : List Op} (hops : ∀ op ∈ ops, P op) {m : St} {s : S} (h : Rel m s) :
    accepts s (run m ops) = true ∧ ∃ s', Rel (ops.foldl (fun m op => (Model.Slots.step m op).1) m) s' := by
  induction ops generalizing m s with
  | nil => exact ⟨rfl, s, h⟩
  | cons op r ih =>
    obtain ⟨s', h1, h2⟩ := hstep m s op h (hops op (List.mem_cons_self ..))
    simp only [run, accepts, h1, List.foldl_cons]
    exact ih (fun o ho => hops o (List.mem_cons_of_mem _ ho)) h2

theorem run_accepted {m : St} {s : S} {ops : List Op} (hR : R m s) (hops : ∀ op ∈ ops, OpOk op) :
    accepts s (run m ops) = true :=
  (accepts_of_sim step_refines hops hR).1

theorem R_init (maxSlots maxBytes : Int) (h : CfgOk maxSlots maxBytes) :
    R (Model.Slots.init maxSlots maxBytes) (Spec.Slots.init maxSlots maxBytes) := by
  refine ⟨fun _ => 0, [], rfl, rfl, rfl, (psum_zero _).symm, ⟨rfl, rfl, rfl⟩, ?_⟩
  exact idxOk_empty _ h.1 h.2
    (by show ((Tree.new maxBytes).length : Int) = maxBytes; rw [new_length]; exact Int.toNat_of_nonneg h.1)
    rfl rfl (off_new maxBytes)

/-- **C20 (main theorem).** For every pair of limits and every interleaving of `park` (any sequence
numbers in any order, duplicates, every size including empty packets, limits hit or not), `take` (parked or not,
in any order, draining the sequencer or never draining it) and `resetAll` (`SlotSequencer.Reset()` + `DiscardAll()` with
whatever is parked, after which the sequencer is used again), everything the implementation model
returns is accepted by the parked-packets monitor: the slot `Pop` returns, applied to the save area
as it is at that moment, addresses exactly the bytes saved under that number; discarding it removes
exactly those bytes and leaves every other parked packet in place; duplicates are rejected without
effect; the byte and slot limits are reported as errors that change nothing; `Bytes()`, `Size()` and
the save area equal the parked totals; and nothing panics. -/
theorem C20_addresses_saved_bytes (maxSlots maxBytes : Int) (h : CfgOk maxSlots maxBytes)
    (ops : List Op) (hops : ∀ op ∈ ops, OpOk op) :
    accepts (Spec.Slots.init maxSlots maxBytes) (run (Model.Slots.init maxSlots maxBytes) ops) = true :=
  run_accepted (R_init maxSlots maxBytes h) hops

/-- The coupling holds in every reachable state, with the monitor state reached on the same script. -/
theorem C20_inv_reachable (maxSlots maxBytes : Int) (h : CfgOk maxSlots maxBytes)
    (ops : List Op) (hops : ∀ op ∈ ops, OpOk op) :
    ∃ s, R (ops.foldl (fun m op => (Model.Slots.step m op).1) (Model.Slots.init maxSlots maxBytes)) s :=
  (accepts_of_sim step_refines hops (R_init maxSlots maxBytes h)).2

/-! ## The clauses of C20 stated outright, for any state coupled to a map of parked packets -/

/-- Whatever was discarded before, `Pop` of a parked number returns a slot that — applied to the
buffer as it is at that moment — addresses exactly the bytes saved under that number. -/
theorem C20_pop_addresses (m : St) (s : S) (seq : Int) (pkt : Bytes) (hR : R m s)
    (hp : s.parked.lookup seq = some pkt) :
    ∃ q' slot, m.sq.pop seq = some (q', slot, true) ∧ m.buf.savedSlot slot = some pkt ∧
      slice m.buf.saved slot.Index slot.Length = some pkt := by
  obtain ⟨q', b', r', idx, hpop, ⟨hslice, hsl⟩, _, _⟩ := take_hit m s seq pkt hR hp
  exact ⟨q', _, hpop, hsl, by rw [(C20_totals m s hR).2.2]; exact hslice⟩

/-- Discarding that slot removes exactly those bytes: the save area is then the remaining packets
in their order, each still parked under its number (the coupling holds again, so
`C20_pop_addresses` applies to every one of them in turn). -/
theorem C20_discard_exact (m : St) (s : S) (seq : Int) (pkt : Bytes) (hR : R m s)
    (hp : s.parked.lookup seq = some pkt) :
    ∃ q' slot b' r, m.sq.pop seq = some (q', slot, true) ∧ m.buf.discard slot = some (b', r) ∧
      b'.saved = flat (without s.parked seq) ∧
      R { m with buf := b', sq := q' }
        { s with parked := without s.parked seq, gone := if without s.parked seq = [] then 0 else s.gone + pkt.length } := by
  obtain ⟨q', b', r', idx, hpop, _, hd1, hR'⟩ := take_hit m s seq pkt hR hp
  exact ⟨q', _, b', r', hpop, hd1, (C20_totals _ _ hR').2.2, hR'⟩

/-- What a `park` can answer, and what it leaves behind: either the packet is accepted (new number,
no limit hit) and is parked at the end of the save area, or it is rejected — silently only if the
number is already parked, with an error only if a limit is hit — and then the sequencer and the
save area are exactly as before. -/
theorem C20_park_verdict (m : St) (s : S) (seq : Int) (bytes : Bytes) (n : Int) (hR : R m s) :
    ∃ i l ok err total size saved,
      (Model.Slots.step m (.park seq bytes n)).2 = .park i l ok err total size saved ∧
      PushOk s seq (saveLen n (s.readable ++ bytes).length) ok err ∧
      (ok = false → saved = flat s.parked ∧ total = (flat s.parked).length ∧ size = s.parked.length) ∧
      (ok = true → saved = flat s.parked ++ (s.readable ++ bytes).take (saveLen n (s.readable ++ bytes).length)) := by
  obtain ⟨m', i, l, ok, err, hstep, hpush, hR'⟩ := park_obs m s seq bytes n hR rfl rfl rfl
  obtain ⟨ht1, ht2, ht3⟩ := C20_totals _ _ hR'
  refine ⟨i, l, ok, err, _, _, _, by rw [hstep], hpush, ?_, ?_⟩
  · intro hok
    subst hok
    exact ⟨ht3, ht1, ht2⟩
  · intro hok
    subst hok
    rw [ht3]
    exact flat_snoc _ _

/-- Duplicate sequence numbers are rejected without disturbing stored ones. -/
theorem C20_duplicates (m : St) (s : S) (seq : Int) (bytes : Bytes) (n : Int) (hR : R m s) (hd : Dup s seq) :
    ∃ i l err, (Model.Slots.step m (.park seq bytes n)).2 =
      .park i l false err ((flat s.parked).length) s.parked.length (flat s.parked) := by
  obtain ⟨i, l, ok, err, total, size, saved, h1, hpush, hno, _⟩ := C20_park_verdict m s seq bytes n hR
  cases ok with
  | true => exact absurd hd (hpush.1 rfl).2.1
  | false =>
    obtain ⟨e1, e2, e3⟩ := hno rfl
    rw [e1, e2, e3] at h1
    exact ⟨i, l, err, h1⟩

/-- The byte and slot limits are reported as errors and leave the state unchanged (for a number
that is already parked see `C20_duplicates`: rejected, with or without an error, state unchanged). -/
theorem C20_capacity_errors_preserve_state (m : St) (s : S) (seq : Int) (bytes : Bytes) (n : Int) (hR : R m s)
    (hnew : ¬ Dup s seq) (hlim : OverBytes s (saveLen n (s.readable ++ bytes).length) ∨ OverSlots s) :
    ∃ i l, (Model.Slots.step m (.park seq bytes n)).2 =
      .park i l false true ((flat s.parked).length) s.parked.length (flat s.parked) := by
  obtain ⟨i, l, ok, err, total, size, saved, h1, hpush, hno, _⟩ := C20_park_verdict m s seq bytes n hR
  cases ok with
  | true =>
    have := hpush.1 rfl
    rcases hlim with h | h
    · exact absurd h this.2.2.1
    · exact absurd h this.2.2.2
  | false =>
    obtain ⟨e1, e2, e3⟩ := hno rfl
    rw [e1, e2, e3] at h1
    cases err with
    | true => exact ⟨i, l, h1⟩
    | false => exact absurd (hpush.2.2 rfl rfl) hnew

/-! ## The bare `SlotOffsetter` (stream `add` / `off` / `reset`, slots named by handles) -/

def toLive (G : List GE) : List (Int × Slot) := G.map (fun g => (g.seq, ⟨(g.o : Int), (g.bytes.length : Int)⟩))

/-- Coupling for the offsetter-only stream. -/
def Roff (m : St) (s : S) : Prop :=
  ∃ (a : Nat → Int) (G : List GE),
    (m.tree.length : Int) = s.maxBytes ∧ s.maxBytes ≤ Go.I64MAX ∧ s.parked = toParked G ∧
    s.gone = psum a m.tree.length ∧ BufOk m.buf (flat s.parked) s.readable ∧ OffOk m.tree a G ∧
    m.live = toLive G ∧ m.next = s.next ∧ (∀ g ∈ G, g.seq < s.next) ∧
    G.Pairwise (fun g1 g2 => g1.seq ≠ g2.seq)

def OpOkOff : Op → Prop
  | .add _ _ => True
  | .off _ => True
  | .reset => True
  | _ => False
instance : (op : Op) → Decidable (OpOkOff op)
  | .park _ _ _ => by unfold OpOkOff; exact inferInstance
  | .take _ => by unfold OpOkOff; exact inferInstance
  | .add _ _ => by unfold OpOkOff; exact inferInstance
  | .off _ => by unfold OpOkOff; exact inferInstance
  | .reset => by unfold OpOkOff; exact inferInstance
  | .resetAll => by unfold OpOkOff; exact inferInstance

theorem spec_add (s : S) {bytes : Bytes} {n i l : Int} {err : Bool} {i' l' : Int} {saved : Bytes}
    (h1 : err = true → IndexSpaceUsedUp s)
    (h2 : saved = flat (if err = false
      then s.parked ++ [(s.next, (s.readable ++ bytes).take (saveLen n (s.readable ++ bytes).length))] else s.parked)) :
    Spec.Slots.step s (.add bytes n) (.add i l err i' l' saved) =
      some { s with readable := (s.readable ++ bytes).drop (saveLen n (s.readable ++ bytes).length),
                    parked := if err = false
                      then s.parked ++ [(s.next, (s.readable ++ bytes).take (saveLen n (s.readable ++ bytes).length))]
                      else s.parked,
                    next := if err = false then s.next + 1 else s.next } := by
  unfold Spec.Slots.step
  dsimp only
  rw [if_pos ⟨h1, h2⟩]

/-- `Write; Commit; Save; Add` (and `Discard` after a refused `Add`). -/
theorem add_obs (m : St) (s : S) (bytes : Bytes) (n : Int) (hR : Roff m s)
    {k : Nat} {pkt rest : Bytes} (hk : k = saveLen n (s.readable ++ bytes).length)
    (hp : pkt = (s.readable ++ bytes).take k) (hr : rest = (s.readable ++ bytes).drop k) :
    ∃ m' i l err i' l', Model.Slots.step m (.add bytes n) = (m', .add i l err i' l' m'.buf.saved) ∧
      (err = true → IndexSpaceUsedUp s) ∧
      Roff m' { s with readable := rest, parked := if err = false then s.parked ++ [(s.next, pkt)] else s.parked,
                       next := if err = false then s.next + 1 else s.next } := by
  obtain ⟨a, G, c1, c2, hpk, hgone, hbuf, hoff, hlive, hnext, hfresh, hnodup⟩ := hR
  rw [hpk] at hbuf
  obtain ⟨hslot, hlen, hacc, b', r', hdis, hrej⟩ := feed_parked bytes n hbuf hk hp hr
  obtain ⟨hadd, hoff'⟩ := off_add hoff s.next pkt
  rw [← hslot] at hadd
  by_cases hlim : sidx G pkt + psum a m.tree.length ≥ m.tree.length
  · -- index space used up: error, the slot just saved is discarded
    rw [if_pos hlim] at hadd
    refine ⟨{ m with buf := b' }, (feed m.buf bytes n).2.Index, (feed m.buf bytes n).2.Length, true, 0, 0, ?_,
      fun _ => indexSpace_of_sidx hpk hgone (by rw [← c1]; exact hlim),
      a, G, c1, c2, hpk, hgone, by rw [hpk]; exact hrej, hoff, hlive, hnext, hfresh, hnodup⟩
    unfold Model.Slots.step
    dsimp only
    rw [hadd]
    rw [hdis]
  · rw [if_neg hlim] at hadd
    obtain ⟨o, ho, hoff''⟩ := hoff' hlim
    have hpk' : s.parked ++ [(s.next, pkt)] = toParked (G ++ [⟨s.next, o, pkt⟩]) := by
      rw [toParked_append, hpk]; rfl
    refine ⟨{ m with buf := (feed m.buf bytes n).1,
                     live := m.live ++ [(m.next, ⟨sidx G pkt + psum a m.tree.length, pkt.length⟩)], next := m.next + 1 },
      (feed m.buf bytes n).2.Index, (feed m.buf bytes n).2.Length, false, sidx G pkt + psum a m.tree.length, pkt.length,
      ?_, nofun, a, _, c1, c2, hpk', hgone, ?_, hoff'', ?_, ?_, ?_, ?_⟩
    · unfold Model.Slots.step
      dsimp only
      rw [hadd]
    · rw [hpk']; exact hacc _ _
    · unfold toLive
      rw [List.map_append, ← toLive, ← hlive, hnext, ← ho]
      rfl
    · show m.next + 1 = s.next + 1
      rw [hnext]
    · intro g hg
      rcases List.mem_append.mp hg with hg | hg
      · exact Int.lt_trans (hfresh g hg) (Int.lt_succ _)
      · rw [List.mem_singleton.mp hg]; exact Int.lt_succ _
    · refine List.pairwise_append.mpr ⟨hnodup, List.pairwise_singleton .., ?_⟩
      intro g hg b hb
      rw [List.mem_singleton.mp hb]
      exact Int.ne_of_lt (hfresh g hg)

theorem step_add (m : St) (s : S) (bytes : Bytes) (n : Int) (hR : Roff m s) :
    ∃ s', Spec.Slots.step s (.add bytes n) (Model.Slots.step m (.add bytes n)).2 = some s' ∧
          Roff (Model.Slots.step m (.add bytes n)).1 s' := by
  obtain ⟨m', i, l, err, i', l', hstep, herr, hR'⟩ := add_obs m s bytes n hR rfl rfl rfl
  rw [hstep]
  refine ⟨_, spec_add s herr ?_, hR'⟩
  obtain ⟨_, _, _, _, _, _, hbuf, _⟩ := hR'
  exact saved_of_bufOk hbuf

theorem step_off (m : St) (s : S) (h : Int) (hR : Roff m s) :
    ∃ s', Spec.Slots.step s (.off h) (Model.Slots.step m (.off h)).2 = some s' ∧
          Roff (Model.Slots.step m (.off h)).1 s' := by
  obtain ⟨a, G, c1, c2, hpk, hgone, hbuf, hoff, hlive, hnext, hfresh, hnodup⟩ := id hR
  by_cases hin : ∃ g ∈ G, g.seq = h
  · obtain ⟨g, hg, rfl⟩ := hin
    obtain ⟨G1, G2, rfl⟩ := List.append_of_mem hg
    obtain ⟨hu1, hu2⟩ := nodup_unique hnodup
    obtain ⟨idx, hoffs, hi1, hi2, hi3, hoff', hpsn⟩ := off_offset hoff (by rw [c1]; exact c2)
    rw [hpk] at hbuf
    obtain ⟨hlook, hrest, haddr, b', r', hdis, hbuf'⟩ := parked_remove hbuf hnodup hi1 hi2 hi3
    rw [← hpk] at hlook hrest haddr
    have hlive' : m.live.lookup g.seq = some ⟨(g.o : Int), (g.bytes.length : Int)⟩ := by
      rw [hlive]; exact lookup_keyed_some _ G1 G2 g hu1
    have hstep : Model.Slots.step m (.off g.seq) =
        ({ m with buf := b', tree := m.tree.add g.o g.bytes.length, live := m.live.filter (fun p => p.1 != g.seq) },
          .off idx g.bytes.length (m.buf.savedSlot ⟨idx, g.bytes.length⟩) b'.saved) := by
      unfold Model.Slots.step
      dsimp only
      rw [hlive']
      dsimp only
      rw [hoffs]
      dsimp only
      rw [hdis]
    rw [hstep]
    refine ⟨{ s with parked := without s.parked g.seq, gone := s.gone + g.bytes.length }, ?_,
      upd a g.o g.bytes.length, G1 ++ G2, ?_, c2, hrest, ?_, ?_, hoff', ?_, hnext, ?_,
      hnodup.sublist (sublist_mid G1 G2 g)⟩
    · unfold Spec.Slots.step
      dsimp only
      rw [hlook]
      dsimp only
      rw [if_pos ⟨haddr, by rw [saved_of_bufOk hbuf', hrest]⟩]
    · rw [add_length]; exact c1
    · rw [add_length, hpsn, hgone]
    · rw [hrest]; exact hbuf'
    · rw [hlive]; exact filter_keyed _ G1 G2 g hu1 hu2
    · exact fun x hx => hfresh x ((sublist_mid G1 G2 g).subset hx)
  · have hl1 : m.live.lookup h = none := by rw [hlive]; exact lookup_keyed_none _ G h hin
    have hl2 : s.parked.lookup h = none := by rw [hpk]; exact lookup_toParked_none G h hin
    have hstep : Model.Slots.step m (.off h) = (m, .skip) := by
      unfold Model.Slots.step
      dsimp only
      rw [hl1]
    rw [hstep]
    refine ⟨s, ?_, hR⟩
    unfold Spec.Slots.step
    dsimp only
    rw [hl2]; rfl

theorem step_reset (m : St) (s : S) (hR : Roff m s) :
    ∃ s', Spec.Slots.step s .reset (Model.Slots.step m .reset).2 = some s' ∧
          Roff (Model.Slots.step m .reset).1 s' := by
  obtain ⟨a, G, c1, c2, hpk, hgone, hbuf, hoff, hlive, hnext, hfresh, hnodup⟩ := id hR
  cases G with
  | nil =>
    have hl : m.live = [] := hlive
    have hp : s.parked = [] := hpk
    have hstep : Model.Slots.step m .reset = ({ m with tree := m.tree.reset }, .unit) := by
      unfold Model.Slots.step
      rw [if_pos hl]
    rw [hstep]
    refine ⟨{ s with gone := 0 }, ?_, fun _ => 0, [], ?_, c2, hpk, (psum_zero _).symm, hbuf, off_reset _, hlive, hnext, hfresh, hnodup⟩
    · unfold Spec.Slots.step
      rw [if_pos hp]
    · rw [reset_length]; exact c1
  | cons g r =>
    have hl : m.live ≠ [] := by rw [hlive]; exact List.cons_ne_nil _ _
    have hp : s.parked ≠ [] := by rw [hpk]; exact List.cons_ne_nil _ _
    have hstep : Model.Slots.step m .reset = (m, .skip) := by
      unfold Model.Slots.step
      rw [if_neg hl]
    rw [hstep]
    refine ⟨s, ?_, hR⟩
    unfold Spec.Slots.step
    dsimp only
    rw [if_neg hp]

theorem step_refines_off (m : St) (s : S) (op : Op) (hR : Roff m s) (hop : OpOkOff op) :
    ∃ s', Spec.Slots.step s op (Model.Slots.step m op).2 = some s' ∧ Roff (Model.Slots.step m op).1 s' := by
  cases op with
  | park _ _ _ => exact absurd hop id
  | take _ => exact absurd hop id
  | add bytes n => exact step_add m s bytes n hR
  | off h => exact step_off m s h hR
  | reset => exact step_reset m s hR
  | resetAll => exact absurd hop id

theorem run_accepted_off {m : St} {s : S} {ops : List Op} (hR : Roff m s) (hops : ∀ op ∈ ops, OpOkOff op) :
    accepts s (run m ops) = true :=
  (accepts_of_sim step_refines_off hops hR).1

/-- The slot limit of the sequencer beside the bare offsetter plays no part. -/
theorem Roff_init (maxSlots maxBytes : Int) (h0 : 0 ≤ maxBytes) (h1 : maxBytes ≤ Go.I64MAX) :
    Roff (Model.Slots.init maxSlots maxBytes) (Spec.Slots.init maxSlots maxBytes) := by
  refine ⟨fun _ => 0, [], ?_, h1, rfl, (psum_zero _).symm, ⟨rfl, rfl, rfl⟩, off_new maxBytes, rfl, rfl, nofun, List.Pairwise.nil⟩
  show ((Tree.new maxBytes).length : Int) = maxBytes
  rw [new_length]; exact Int.toNat_of_nonneg h0

/-- **C20 for the bare `SlotOffsetter`.** For every size of the offsetter and every interleaving of
`add` (every packet size, index space used up or not), `off` (held slots in any order, unknown
handles) and `reset` (when nothing is held), the slot `Offset` returns addresses exactly the bytes
saved under that handle, discarding it removes exactly those bytes and leaves every other packet in
place, an error is returned only when the index space is used up, and nothing panics. -/
theorem C20_offsetter_addresses_saved_bytes (maxBytes : Int) (h0 : 0 ≤ maxBytes) (h1 : maxBytes ≤ Go.I64MAX)
    (ops : List Op) (hops : ∀ op ∈ ops, OpOkOff op) :
    accepts (Spec.Slots.init 0 maxBytes) (run (Model.Slots.init 0 maxBytes) ops) = true :=
  run_accepted_off (Roff_init 0 maxBytes h0 h1) hops

/-! ## `util/fenwick_tree.go` -/

/-- After any sequence of `Add`s on a fresh tree of `n` cells, `SumUntil(i)` is the sum of the first
`i+1` cells, where cell `x` holds everything that was added at `x`.  Both loops are fuel recursions
whose fuel (`len` for `Add`, `i+1` for `SumUntil`) is shown sufficient because the index strictly
increases (`i < i | (i+1)`) respectively decreases (`i & (i+1) ≤ i`): the loops terminate. -/
theorem fenwick_prefix_sum (n : Nat) (adds : List (Nat × Int)) (i : Nat) (hi : i < n) :
    (applyAdds (Tree.new n) adds).sumUntil i =
      psum (fun x => ((adds.filter (fun p => p.1 == x)).map (·.2)).sum) (i + 1) := by
  obtain ⟨hf, hl⟩ := fen_applyAdds_new n adds
  exact sumUntil_spec hf i (by rw [hl]; exact hi)

/-- `Sum()` is the sum of all cells. -/
theorem fenwick_sum (n : Nat) (adds : List (Nat × Int)) :
    (applyAdds (Tree.new n) adds).sum = psum (fun x => ((adds.filter (fun p => p.1 == x)).map (·.2)).sum) n := by
  obtain ⟨hf, hl⟩ := fen_applyAdds_new n adds
  rw [sum_spec hf, hl]

/-! ## Non-vacuity: the hypotheses are met by non-trivial scripts, and the monitor does reject
wrong behaviour (so acceptance is not trivial). -/

example : CfgOk 4 64 := by decide

/-- out of order, never draining until the end, a duplicate, a miss, the slot limit, an empty
packet, a `Save` of fewer bytes than were written -/
def demo : List Op :=
  [.park 5 [0x51, 0x52] 2, .park 2 [0x21, 0x22, 0x23] 3, .park 9 [0x91] 1, .take 2, .park 5 [0xff] 1,
   .park 3 [0x31, 0x32] 2, .take 7, .take 5, .park 1 [0x11] 1, .park 4 [] 0, .park 6 [0x61] 1,
   .take 9, .take 3, .take 4, .take 1, .park 8 [0x81, 0x82, 0x83] 2, .park 7 [0x71] 9, .take 8, .take 7]

/-- the bare offsetter: out of order, an empty packet, an unknown handle, a reset -/
def demoOff : List Op :=
  [.add [0xa1] 1, .add [0xb1, 0xb2] 2, .add [0xc1, 0xc2, 0xc3] 3, .off 1, .add [] 0, .off 2, .off 7, .reset,
   .off 3, .off 0, .reset, .add [0xd1] 1, .off 4]

example : ∀ op ∈ demo, OpOk op := by decide
example : accepts (Spec.Slots.init 4 64) (run (Model.Slots.init 4 64) demo) = true := by decide +kernel
example : ∀ op ∈ demoOff, OpOkOff op := by decide
example : accepts (Spec.Slots.init 0 8) (run (Model.Slots.init 0 8) demoOff) = true := by decide +kernel

-- a slot that is off by one byte, a discard that removes the wrong packet, an accepted duplicate,
-- an error without a limit, a wrong byte count: all rejected
def twoParked : S := { Spec.Slots.init 4 64 with parked := [(1, [0xaa]), (2, [0xbb, 0xcc])] }
example : Spec.Slots.step twoParked (.take 2) (.take true 0 2 (some [0xaa, 0xbb]) 1 1 [0xaa]) = none := by decide
example : Spec.Slots.step twoParked (.take 2) (.take true 1 2 (some [0xbb, 0xcc]) 1 1 [0xbb]) = none := by decide
example : Spec.Slots.step twoParked (.take 2) (.take true 1 2 (some [0xbb, 0xcc]) 1 1 [0xaa]) ≠ none := by decide
example : Spec.Slots.step twoParked (.park 2 [0xdd] 1) (.park 3 1 true false 4 3 [0xaa, 0xbb, 0xcc, 0xdd]) = none := by decide
example : Spec.Slots.step twoParked (.park 3 [0xdd] 1) (.park 3 1 false true 3 2 [0xaa, 0xbb, 0xcc]) = none := by decide
example : Spec.Slots.step twoParked (.park 3 [0xdd] 1) (.park 3 1 true false 3 3 [0xaa, 0xbb, 0xcc, 0xdd]) = none := by decide

end Sonic.Props.C20
