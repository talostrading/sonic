/-
C03 — Event-loop accounting and RunPending termination.

Theorems about the loop model `Sonic.Model.Loop` (which the correspondence check accepts real traces of the event
loop against): in every reachable state `poller.pending` equals the number of registered interests (one per deferred
read / write / accept and per armed timer) plus the posted handlers not yet run (queued or currently running);
hence `Pending()` is exact whenever no handler executes, `RunPending`'s loop condition is false exactly when
nothing is in flight, and a poll that dispatched a handler reports a positive count, never a timeout.

Tie T: `Sonic.Props.C03Poller` (imported here, theorems `C03_poller_*`) proves that the model's helpers `setRead / setWrite /
delRead / delWrite / closeObj / armTimer / unsetPending` do to `(evR, evW, pending)` exactly what the functions regenerated
from `internal/poll_linux.go` (`Sonic.Gen.Poller`) do, for every slot state and every outcome of the system calls.

Also here: a wait interrupted by a signal is not an error (`C03_eintr_not_an_error`, the decision of io.go `poll` stated
outright), and the API-level reading of the counter against the ledger of `Props/Ledger`
(`C03_pending_is_operations_in_flight`, `C03_owed_is_registered`).
-/
import Sonic.Lemmas.LoopAcct
import Sonic.Props.Ledger
import Sonic.Props.C03Poller

namespace Sonic.Props.C03
open Sonic.Model.Loop
open Sonic.Spec.Loop (Ev Ret Res OpKind ObjKind)

def Reach (evs : List Ev) (w : World) : Prop := run {} evs = some w

/-- **C03 (accounting invariant).** For every event history the model accepts — any sequence of start / complete /
cancel / close / timer arm / disarm / post, over any number of objects, with any poll batches — the pending count
equals registered interests + queued posts + posted handlers currently running. -/
theorem C03_pending_accounting (evs : List Ev) (w : World) (h : Reach evs w) :
    w.pending = bits w.objs + w.posts.length + postFrames w.stack := by
  have := (run_invariant step_acct acct_init h).2
  omega

theorem postFrames_nonneg : ∀ st : List K, 0 ≤ postFrames st
  | [] => Int.le_refl 0
  | k :: r => by
    have := postFrames_nonneg r
    cases k with
    | user op a => cases a <;> first | exact this | exact Int.add_nonneg (by decide) this
    | _ => exact this

theorem pending_exact {w w' : World} {p q d : Int} (hI : AcctInv w) (htop : w.stack = [.pendingCall])
    (hs : step w (.ret (.pending p q d)) = some w') : p = bits w.objs + w.posts.length ∧ q = w.posts.length := by
  have hacc := hI.2
  unfold step at hs
  simp only [htop] at hs
  have hc := (of_ite_else_none hs).1
  simp only [Bool.and_eq_true, beq_iff_eq] at hc
  rw [htop] at hacc
  simp only [postFrames] at hacc
  exact ⟨by omega, hc.1.2⟩

/-- **C03 (Pending() is exact when no handler executes).** If the model accepts a `Pending()`/`Posted()`
observation `(p, q)` at top level, then `p` is the number of registered interests plus queued posts and `q` the
number of queued posts. -/
theorem C03_pending_reported_exact (evs : List Ev) (w w' : World) (p q d : Int) (h : Reach evs w)
    (htop : w.stack = [.pendingCall]) (hs : step w (.ret (.pending p q d)) = some w') :
    p = bits w.objs + w.posts.length ∧ q = w.posts.length :=
  pending_exact (run_invariant step_acct acct_init h) htop hs

theorem idle_iff {w : World} (hI : AcctInv w) (htop : w.stack = []) :
    w.pending ≤ 0 ↔ (bits w.objs = 0 ∧ w.posts = []) := by
  have hacc := hI.2
  rw [htop] at hacc
  simp only [postFrames] at hacc
  have h1 := bits_nonneg w.objs
  constructor
  · intro hp
    have : (w.posts.length : Int) = 0 := by omega
    exact ⟨by omega, List.eq_nil_of_length_eq_zero (by omega)⟩
  · rintro ⟨hb, hp⟩
    rw [hb, hp] at hacc; simp at hacc; omega

/-- **C03 (RunPending).** `RunPending` loops while `Pending() > 0`. At a loop head (top level, no handler running)
that condition is false exactly when no interest is registered and no post is queued: it never returns with an
operation in flight and never keeps waiting with none. -/
theorem C03_runpending_exit_iff_idle (evs : List Ev) (w : World) (h : Reach evs w) (htop : w.stack = []) :
    w.pending ≤ 0 ↔ (bits w.objs = 0 ∧ w.posts = []) :=
  idle_iff (run_invariant step_acct acct_init h) htop

/-- **C03 (PollOne result).** A poll during which a handler was dispatched cannot report a timeout, and no poll
reports success with a zero count. -/
theorem C03_poll_result (w w' : World) (any : Bool) (rest : List K) (r : Ret)
    (hst : w.stack = .pollCall any :: rest) (hs : step w (.ret r) = some w') :
    (∀ n res, r = .poll n res → n ≠ 0) ∧ (∀ n, r = .pollTimeout n → any = true → n < 0) := by
  constructor
  · intro n res hr
    subst hr
    unfold step at hs
    simp only [hst] at hs
    simpa using (of_ite_none hs).1
  · intro n hr hany
    subst hr hany
    unfold step at hs
    simp only [hst] at hs
    have hc := (of_ite_none hs).1
    simp only [Bool.true_and, decide_eq_true_eq] at hc
    omega

/-! The wait interrupted by a signal (io.go `poll`): decision logic stated outright -/

inductive WaitOutcome where
  | events (n : Nat) | eintr | timeoutErr | otherErr
  deriving DecidableEq, Repr

inductive PollReturn where
  | ok (n : Nat) | timeout | nilZero | error
  deriving DecidableEq, Repr

/-- Mirror of `(*IO).poll` (io.go): how the poller's result is turned into the caller's. -/
def ioPoll (timeoutMs : Int) : WaitOutcome → PollReturn
  | .events n => .ok n
  | .eintr => if timeoutMs ≥ 0 then .timeout else .nilZero
  | .timeoutErr => .timeout
  | .otherErr => .error

/-- **C03 (EINTR).** A wait interrupted by a signal is never reported as an error. -/
theorem C03_eintr_not_an_error (t : Int) : ioPoll t .eintr ≠ .error := by
  simp only [ioPoll]; split <;> simp

/-! Non-vacuity: a concrete history with a deferred read, a post and a poll is accepted and ends balanced. -/
example : ∃ w, Reach [.obj 1 .stream, .callStart 11 1 .read 8, .ret .plain, .callPost 12, .ret (.err true),
                      .callPending, .ret (.pending 2 1 0), .callPoll, .enter 12 .post 0 [] false, .exit 12,
                      .enter 11 .ok 5 [] false, .exit 11, .ret (.poll 2 .ok), .callPending, .ret (.pending 0 0 0)] w
              ∧ w.pending = 0 := by
  refine ⟨_, rfl, ?_⟩
  decide

/-- **C03 (Pending() = operations in flight), at the API level.** See `Sonic.Props.Ledger`: the ledger knows nothing
about interest bits or the counter, only which operations were started, completed, cancelled or closed. -/
theorem C03_pending_is_operations_in_flight (evs : List Ev) (p q d : Int) (w : World) (l : Sonic.Spec.Ledger.L)
    (h : run {} (evs ++ [.callPending, .ret (.pending p q d)]) = some w)
    (hU : Sonic.Spec.Ledger.UsageOk {} (evs ++ [.callPending, .ret (.pending p q d)]))
    (hl : Sonic.Spec.Ledger.run {} evs = some l) (hq : Sonic.Spec.Ledger.quiet l.stack = true) :
    p = l.owed.length ∧ q = Sonic.Spec.Ledger.postsOwed l :=
  Sonic.Props.Ledger.C03_pending_is_operations_in_flight evs p q d w l h hU hl hq

/-- Every history of the model (documented usage) is accepted by the ledger, pending observations included. -/
theorem C03_ledger_accepts_model (evs : List Ev) (w : World) (h : run {} evs = some w) (hU : Sonic.Spec.Ledger.UsageOk {} evs) :
    Sonic.Spec.Ledger.accepts evs = true :=
  Sonic.Props.Ledger.ledger_accepts_model evs w h hU

/-- The ledger's owed operations are as many as the model's registered interests plus queued posts, in every reachable state. -/
theorem C03_owed_is_registered (evs : List Ev) (w : World) (h : run {} evs = some w) (hU : Sonic.Spec.Ledger.UsageOk {} evs) :
    ∃ l, Sonic.Spec.Ledger.run {} evs = some l ∧ (l.owed.length : Int) = bits w.objs + w.posts.length :=
  Sonic.Props.Ledger.C03_owed_is_registered evs w h hU

end Sonic.Props.C03
