/-
C02 — Byte-stream fidelity and the ReadAll/WriteAll contract (the reactor arithmetic, for every kernel schedule).

Over `Sonic.Model.Xfer` (the transfer loops of file.go and async_adapter.go as a function of what the kernel does
at each syscall): for every buffer length, every stream content and every schedule of partial transfers,
would-blocks, end-of-file and errors, the bytes in `b[:n]` are exactly the next `n` bytes of the stream, the stream
loses exactly those, the count is exact, `ReadAll`/`WriteAll` succeed only with the whole buffer, and a sequence of
reads delivers a prefix of the stream with nothing lost, duplicated or invented.  That the kernel's stream is FIFO
and the real reactors behave like the model is the correspondence check's part (position-dependent payloads, the
C02 clauses of the loop monitor, `Sonic.Spec.Loop.enterChecks`, on real sockets).
-/
import Sonic.Model.Xfer
import Sonic.Model.XferStep

namespace Sonic.Props.C02
open Sonic.Model.Xfer

theorem take_append_drop_len (l : List UInt8) (m : Nat) : l.take m ++ l.drop (l.take m).length = l := by
  by_cases h : m ≤ l.length
  · rw [List.length_take, Nat.min_eq_left h, List.take_append_drop]
  · rw [List.take_of_length_le (by omega), List.drop_length, List.append_nil]

theorem readOp_spec (len : Nat) (all : Bool) :
    ∀ (sched : List KRes) (soFar : Nat) (buf stream : List UInt8) (o : ROut),
      buf.length = soFar → soFar ≤ len →
      readOp len all soFar buf stream sched = some o →
      (∃ d, o.buf = buf ++ d ∧ stream = d ++ o.stream)      -- delivered bytes are the next bytes of the stream
      ∧ o.n = o.buf.length ∧ o.n ≤ len                      -- the count is exactly what is in b[:n]
      ∧ (o.res = .ok → soFar < o.n ∧ (all = true → o.n = len)) := by
  intro sched
  induction sched with
  | nil => intro _ _ _ _ _ _ h; exact nomatch h
  | cons e rest ih =>
    intro soFar buf stream o hb hl h
    cases e with
    | block => exact ih soFar buf stream o hb hl h
    | eof | fail => cases h; exact ⟨⟨[], (List.append_nil _).symm, rfl⟩, hb.symm, hl, nofun⟩
    | move k =>
      have hlen : (stream.take (min k (len - soFar))).length ≤ len - soFar :=
        Nat.le_trans (List.length_take_le _ _) (Nat.min_le_right _ _)
      have hsplit := (take_append_drop_len stream (min k (len - soFar))).symm
      simp only [readOp] at h
      generalize stream.take (min k (len - soFar)) = got at h hlen hsplit
      split at h
      · exact ih soFar buf stream o hb hl h
      · rename_i hne
        have hpos : 0 < got.length := by
          cases got with
          | nil => exact absurd rfl hne
          | cons _ _ => exact Nat.succ_pos _
        have hfit : soFar + got.length ≤ len := by omega
        split at h
        · -- ReadAll, buffer not full yet: keep reading
          obtain ⟨⟨d, hd1, hd2⟩, hn, hle, hok⟩ := ih (soFar + got.length) (buf ++ got) (stream.drop got.length) o
            (by rw [List.length_append, hb]) hfit h
          refine ⟨⟨got ++ d, by rw [hd1, List.append_assoc], ?_⟩, hn, hle, fun hr => ⟨?_, (hok hr).2⟩⟩
          · rw [List.append_assoc, ← hd2]; exact hsplit
          · exact Nat.lt_trans (Nat.lt_add_of_pos_right hpos) (hok hr).1
        · rename_i hfull
          cases h
          refine ⟨⟨got, rfl, hsplit⟩, ?_, hfit, fun _ => ⟨Nat.lt_add_of_pos_right hpos, fun ha => ?_⟩⟩
          · show soFar + got.length = (buf ++ got).length
            rw [List.length_append, hb]
          · rw [ha, Bool.true_and, bne_iff_ne, ne_eq, Decidable.not_not] at hfull
            exact hfull

/-- **C02 (one read).** For every buffer length, stream and kernel schedule: `b[:n]` holds exactly the next `n`
bytes of the stream (none invented, none skipped), the stream has lost exactly those, `n ≤ len(b)`; success means
`n ≥ 1`, and for `AsyncReadAll` success means the whole buffer — however the transfer was split into partial reads,
including a would-block in the middle. On error the count equals the bytes actually transferred. -/
theorem C02_read (len : Nat) (all : Bool) (stream : List UInt8) (sched : List KRes) (o : ROut)
    (h : readOp len all 0 [] stream sched = some o) :
    stream = o.buf ++ o.stream ∧ o.n = o.buf.length ∧ o.n ≤ len ∧
    (o.res = .ok → 1 ≤ o.n ∧ (all = true → o.n = len)) := by
  obtain ⟨⟨d, hd1, hd2⟩, hn, hle, hok⟩ := readOp_spec len all sched 0 [] stream o rfl (Nat.zero_le _) h
  simp only [List.nil_append] at hd1
  subst hd1
  exact ⟨hd2, hn, hle, hok⟩

/-- **C02 (stream fidelity over any number of reads).** The concatenation, in completion order, of what the read
callbacks delivered, followed by what is still in the stream, is the stream: nothing lost, duplicated or reordered. -/
theorem C02_read_prefix : ∀ (ops : List (Nat × Bool)) (stream : List UInt8) (sched : List KRes),
    ∃ rest, stream = ((readOps ops stream sched).map (·.buf)).flatten ++ rest
  | [], stream, _ => ⟨stream, by simp [readOps]⟩
  | (len, all) :: ops, stream, sched => by
    simp only [readOps]
    cases h : readOp len all 0 [] stream sched with
    | none => exact ⟨stream, by simp⟩
    | some o =>
      obtain ⟨hs, _⟩ := C02_read len all stream sched o h
      obtain ⟨rest, hr⟩ := C02_read_prefix ops o.stream o.sched
      refine ⟨rest, ?_⟩
      simp only [List.map_cons, List.flatten_cons, List.append_assoc]
      rw [← hr]; exact hs

def ROut.toW (o : ROut) : WOut := { res := o.res, n := o.n, wire := o.buf, sched := o.sched }

theorem take_min_drop (b : List UInt8) (s k : Nat) :
    (b.drop s).take (min k (b.length - s)) = (b.drop s).take k := by
  rw [← List.length_drop, ← List.take_eq_take_min]

/-- A write is a read seen from the other side: the transport reads the rest of the caller's buffer, `b[soFar:]`, as its
stream, into a buffer of `len(b)` bytes of which `soFar` are filled. Everything about `writeOp` follows from `readOp`. -/
theorem writeOp_eq_readOp (b : List UInt8) (all : Bool) : ∀ (sched : List KRes) (soFar : Nat) (wire : List UInt8),
    writeOp b all soFar wire sched = (readOp b.length all soFar wire (b.drop soFar) sched).map ROut.toW := by
  intro sched
  induction sched with
  | nil => intro _ _; rfl
  | cons e rest ih =>
    intro soFar wire
    cases e with
    | block => exact ih soFar wire
    | eof | fail => rfl
    | move k =>
      simp only [writeOp, readOp, take_min_drop, List.drop_drop]
      split
      · exact ih soFar wire
      · split
        · exact ih _ _
        · rfl

theorem writeOp_spec (b : List UInt8) (all : Bool) :
    ∀ (sched : List KRes) (soFar : Nat) (wire : List UInt8) (o : WOut), soFar ≤ b.length → wire = b.take soFar →
      writeOp b all soFar wire sched = some o →
      o.wire = b.take o.n ∧ soFar ≤ o.n ∧ o.n ≤ b.length
      ∧ (o.res = .ok → soFar < o.n ∧ (all = true → o.n = b.length)) := by
  intro sched soFar wire o hl hw h
  rw [writeOp_eq_readOp, Option.map_eq_some_iff] at h
  obtain ⟨r, hr, rfl⟩ := h
  have hwl : wire.length = soFar := by rw [hw, List.length_take, Nat.min_eq_left hl]
  obtain ⟨⟨d, hd1, hd2⟩, hn, hle, hok⟩ := readOp_spec b.length all sched soFar wire (b.drop soFar) r hwl hl hr
  -- `b = b[:soFar] ++ b[soFar:] = (wire ++ d) ++ r.stream`, and `r.buf = wire ++ d` has `r.n` elements
  have hb : r.buf ++ r.stream = b := by rw [hd1, List.append_assoc, ← hd2, hw, List.take_append_drop]
  refine ⟨?_, ?_, hle, hok⟩
  · show r.buf = b.take r.n
    rw [← hb, hn, List.take_left']; rfl
  · show soFar ≤ r.n
    rw [hn, hd1, List.length_append]; omega

/-- **C02 (one write).** What an `AsyncWrite`/`AsyncWriteAll` put on the wire is exactly the first `n` bytes of the
caller's buffer, in order, `n` being the count passed to the callback; `WriteAll` reports success only with
`n = len(b)`, whatever the split into partial writes and would-blocks; on error `n` is what was actually sent. -/
theorem C02_write (b : List UInt8) (all : Bool) (sched : List KRes) (o : WOut)
    (h : writeOp b all 0 [] sched = some o) :
    o.wire = b.take o.n ∧ o.n ≤ b.length ∧ (o.res = .ok → 1 ≤ o.n ∧ (all = true → o.n = b.length)) := by
  obtain ⟨h1, _, h3, h4⟩ := writeOp_spec b all sched 0 [] o (Nat.zero_le _) (by simp) h
  exact ⟨h1, h3, h4⟩

/-! Non-vacuity: a ReadAll of 8 bytes split 3 / would-block / 5 succeeds with exactly the first 8 stream bytes; a
partial read followed by an error reports the partial count (the defect repaired by 61144e4 reported success here). -/
example : readOp 8 true 0 [] [1,2,3,4,5,6,7,8,9,10] [.move 3, .block, .move 7] =
    some { res := .ok, n := 8, buf := [1,2,3,4,5,6,7,8], stream := [9,10], sched := [] } := by decide +kernel
example : (readOp 8 true 0 [] [1,2,3] [.move 3, .eof]).map (fun o => (o.res, o.n)) = some (.eof, 3) := by decide +kernel
example : (writeOp [1,2,3,4,5] true 0 [] [.move 2, .block, .move 9]).map (fun o => (o.res, o.n, o.wire)) =
    some (.ok, 5, [1,2,3,4,5]) := by decide +kernel

section Monitor
open Sonic.Model.XferStep

theorem countOk_of (res : Res) (n len : Nat) (all : Bool) (hle : n ≤ len)
    (hok : res = .ok → 1 ≤ n ∧ (all = true → n = len)) :
    Sonic.Spec.Xfer.countOk (toRes res) n len all = true := by
  unfold Sonic.Spec.Xfer.countOk
  rw [decide_eq_true hle, Bool.true_and]
  cases res with
  | eof => rfl
  | err => rfl
  | ok =>
    obtain ⟨h1, h2⟩ := hok rfl
    have h3 : (!all || n == len) = true := by
      cases all with
      | false => rfl
      | true => exact beq_iff_eq.2 (h2 rfl)
    show (false || (decide (1 ≤ n) && (!all || n == len))) = true
    rw [h3, decide_eq_true h1]; rfl

/-- **C02 (monitor, one read).** Whatever the schedule, the monitor accepts what the model's read callback is given,
and the monitor's stream afterwards is the model's. -/
theorem C02_monitor_accepts_read (s : Sonic.Spec.Xfer.S) (len : Nat) (all : Bool) (sched : List KRes) (o : ROut)
    (h : readOp len all 0 [] s.stream sched = some o) :
    Sonic.Spec.Xfer.step s (.read len all) (.read (toRes o.res) o.n o.buf true) = some { s with stream := o.stream } := by
  obtain ⟨hs, hn, hle, hok⟩ := C02_read len all s.stream sched o h
  have ht : s.stream.take o.n = o.buf := by rw [hs, hn, List.take_left']; rfl
  have hd : s.stream.drop o.n = o.stream := by rw [hs, hn, List.drop_left']; rfl
  rw [hn] at ht hd
  simp only [Sonic.Spec.Xfer.step, hn, countOk_of o.res o.buf.length len all (hn ▸ hle) (hn ▸ hok), ht, hd, and_self, if_true]

theorem C02_monitor_accepts_write (s : Sonic.Spec.Xfer.S) (b : List UInt8) (all : Bool) (sched : List KRes) (o : WOut)
    (h : writeOp b all 0 [] sched = some o) :
    Sonic.Spec.Xfer.step s (.write b all) (.write (toRes o.res) o.n o.wire) = some { s with wire := s.wire ++ o.wire } := by
  obtain ⟨hw, hle, hok⟩ := C02_write b all sched o h
  simp only [Sonic.Spec.Xfer.step, hw, countOk_of o.res o.n b.length all hle hok, and_self, if_true]

/-- **C02 (monitor accepts the model).** For every sequence of reads and writes, every buffer, every stream and every
per-call behaviour of the transport, the monitor that `sonicdrv xfer` runs on the implementation's observations accepts
the model's observations: an implementation that agrees with the model on a schedule satisfies the property on it. -/
theorem C02_monitor_accepts_model : ∀ (ops : List (Sonic.Spec.Xfer.Op × List KRes)) (s : Sonic.Spec.Xfer.S),
    accepts s ops = true
  | [], _ => rfl
  | (.read len all, sched) :: rest, s => by
    simp only [accepts, mstep]
    cases h : readOp len all 0 [] s.stream sched with
    | none => rfl
    | some o =>
      simp only [Option.map_some, C02_monitor_accepts_read s len all sched o h]
      exact C02_monitor_accepts_model rest _
  | (.write b all, sched) :: rest, s => by
    simp only [accepts, mstep]
    cases h : writeOp b all 0 [] sched with
    | none => rfl
    | some o =>
      simp only [Option.map_some, C02_monitor_accepts_write s b all sched o h]
      exact C02_monitor_accepts_model rest _

/-- The monitor is not trivially accepting: a count above the bytes moved, an invented byte, a `ReadAll` success with a
short count and a dirty tail are all rejected. -/
example : Sonic.Spec.Xfer.step { stream := [1,2,3] } (.read 4 false) (.read .ok 3 [1,2,9] true) = none := by decide +kernel
example : Sonic.Spec.Xfer.step { stream := [1,2,3] } (.read 4 true) (.read .ok 3 [1,2,3] true) = none := by decide +kernel
example : Sonic.Spec.Xfer.step { stream := [1,2,3] } (.read 4 false) (.read .ok 2 [1,2] false) = none := by decide +kernel
example : Sonic.Spec.Xfer.step { stream := [] } (.write [1,2,3] true) (.write .err 3 [1,2] ) = none := by decide +kernel
end Monitor

/-! ### What acceptance by the monitor means at the level of the whole connection

These two theorems are about the monitor alone, hence about *any* trace it accepts — the model's (by
`C02_monitor_accepts_model`) and the implementation's (checked on every run by `sonicdrv xfer`). -/
section Stream
open Sonic.Spec.Xfer

def runMon : S → List (Op × Obs) → Option S
  | s, [] => some s
  | s, (op, ob) :: rest => match step s op ob with
    | none => none
    | some s' => runMon s' rest

def delivered : Op × Obs → List UInt8
  | (.read _ _, .read _ _ buf _) => buf
  | _ => []

/-- what a completion reports as taken from the caller's buffer (writes): the first `n` bytes of it -/
def taken : Op × Obs → List UInt8
  | (.write b _, .write _ n _) => b.take n
  | _ => []

theorem step_some {s s1 : S} : ∀ {op : Op} {ob : Obs}, step s op ob = some s1 →
    s.stream = delivered (op, ob) ++ s1.stream ∧ s1.wire = s.wire ++ taken (op, ob)
  | .read _ _, .read _ n _ _, h => by
    simp only [step] at h
    split at h
    · rename_i hc
      cases h
      exact ⟨by rw [delivered, hc.1]; exact (List.take_append_drop n s.stream).symm, (List.append_nil _).symm⟩
    · cases h
  | .write _ _, .write _ _ _, h => by
    simp only [step] at h
    split at h
    · rename_i hc
      cases h
      exact ⟨rfl, by rw [taken, hc.1]⟩
    · cases h
  | .read _ _, .write _ _ _, h => nomatch h
  | .write _ _, .read _ _ _ _, h => nomatch h

/-- **C02 (stream fidelity of an accepted trace, reads).** If the monitor accepts a trace — any number of reads and
writes, interleaved in any way — then the bytes delivered by the read completions, concatenated in completion order and
followed by what is left of the peer's stream, are the peer's stream: none lost, duplicated, reordered or invented. -/
theorem C02_accepted_reads_are_the_stream : ∀ (tr : List (Op × Obs)) (s s' : S), runMon s tr = some s' →
    s.stream = (tr.map delivered).flatten ++ s'.stream
  | [], s, s', h => by cases h; rfl
  | (op, ob) :: rest, s, s', h => by
    simp only [runMon] at h
    split at h
    · cases h
    · rename_i s1 hs
      rw [(step_some hs).1, C02_accepted_reads_are_the_stream rest s1 s' h, List.map_cons, List.flatten_cons,
        List.append_assoc]

/-- **C02 (stream fidelity of an accepted trace, writes).** Likewise the bytes the transport accepted, in order, are the
concatenation of `b[:n]` over the write completions: the count passed to each callback is exactly what that operation
moved out of the caller's buffer, and bytes of different operations are never interleaved. -/
theorem C02_accepted_writes_are_the_wire : ∀ (tr : List (Op × Obs)) (s s' : S), runMon s tr = some s' →
    s'.wire = s.wire ++ (tr.map taken).flatten
  | [], s, s', h => by cases h; exact (List.append_nil _).symm
  | (op, ob) :: rest, s, s', h => by
    simp only [runMon] at h
    split at h
    · cases h
    · rename_i s1 hs
      rw [C02_accepted_writes_are_the_wire rest s1 s' h, (step_some hs).2, List.map_cons, List.flatten_cons,
        List.append_assoc]

example : runMon { stream := [1,2,3,4,5] } [(.read 2 false, .read .ok 2 [1,2] true), (.write [9,8,7] true, .write .ok 3 [9,8,7]),
    (.read 4 true, .read .eof 3 [3,4,5] true)] = some { stream := [], wire := [9,8,7] } := by decide +kernel
end Stream

/-! ### Would-blocks and deferrals do not change what an operation reports

Where the kernel says "would block" — before the first attempt (the operation was deferred to the poller, e.g. at the dispatch
limit, C14), between two partial transfers, or repeatedly — is irrelevant to the result class, the count, the bytes and the state
of the stream: the operation completes with the result it would have had without them. -/
section Blocks

def ROut.core (o : ROut) : Res × Nat × List UInt8 × List UInt8 := (o.res, o.n, o.buf, o.stream)
def WOut.core (o : WOut) : Res × Nat × List UInt8 := (o.res, o.n, o.wire)

def noBlocks (sched : List KRes) : List KRes := sched.filter (fun k => k != .block)

theorem C02_read_would_block_irrelevant (len : Nat) (all : Bool) : ∀ (sched : List KRes) (soFar : Nat) (buf stream : List UInt8),
    (readOp len all soFar buf stream (noBlocks sched)).map ROut.core = (readOp len all soFar buf stream sched).map ROut.core := by
  intro sched
  induction sched with
  | nil => intro _ _ _; rfl
  | cons e rest ih =>
    intro soFar buf stream
    cases e with
    | block => exact ih soFar buf stream
    | eof | fail => rfl
    | move k =>
      show (readOp len all soFar buf stream (.move k :: noBlocks rest)).map ROut.core = _
      simp only [readOp]
      split
      · exact ih soFar buf stream
      · split
        · exact ih _ _ _
        · rfl

theorem C02_write_would_block_irrelevant (b : List UInt8) (all : Bool) : ∀ (sched : List KRes) (soFar : Nat) (wire : List UInt8),
    (writeOp b all soFar wire (noBlocks sched)).map WOut.core = (writeOp b all soFar wire sched).map WOut.core := by
  intro sched soFar wire
  have h := congrArg (Option.map fun c => (c.1, c.2.1, c.2.2.1))
    (C02_read_would_block_irrelevant b.length all sched soFar wire (b.drop soFar))
  rw [Option.map_map, Option.map_map] at h
  rw [writeOp_eq_readOp, writeOp_eq_readOp, Option.map_map, Option.map_map]
  exact h

/-- **C14 / C02 (deferred = inline).** An operation whose first attempt is left to the poller (a would-block in front of the
schedule: issued at the dispatch limit, or the descriptor was not ready) completes with exactly the result of the same
operation tried at once. -/
theorem C14_deferred_read_same_result (len : Nat) (all : Bool) (sched : List KRes) (stream : List UInt8) :
    (readOp len all 0 [] stream (.block :: sched)).map ROut.core = (readOp len all 0 [] stream sched).map ROut.core :=
  rfl

theorem C14_deferred_write_same_result (b : List UInt8) (all : Bool) (sched : List KRes) :
    (writeOp b all 0 [] (.block :: sched)).map WOut.core = (writeOp b all 0 [] sched).map WOut.core :=
  rfl

example : (readOp 8 true 0 [] [1,2,3,4,5,6,7,8,9] [.block, .move 3, .block, .block, .move 9]).map ROut.core =
    (readOp 8 true 0 [] [1,2,3,4,5,6,7,8,9] [.move 3, .move 9]).map ROut.core := by decide +kernel
end Blocks

end Sonic.Props.C02
