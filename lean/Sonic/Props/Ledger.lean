/-
C01 / C03 — the loop model refines the API-level ledger of operations in flight.

`Sonic.Spec.Ledger` is a shadow ledger over the events a user of the library can see (calls, callback entries and
returns), with no knowledge of epoll, slots, interest bits or `poller.pending`.  The theorems below say that **every
history the loop model can produce is accepted by that ledger**, for all objects, operations, poll batches, handler
behaviours (re-issue, cancel, close, re-arm, nested polls) and lengths — by a coupling invariant between model states
and ledger states (`Lemmas/LoopLedgerSim.lean: step_sim`) and induction over the history:

* C01: a completion callback is entered only inline in its own starting call or for an operation the ledger owes — so
  never twice, never after Close, never after a successful Cancel, never for a schedule that was cancelled or replaced;
* C03: whenever no handler is executing, the `Pending()` the model reports equals the number of owed operations and
  `Posted()` the number of owed posts — counting nothing that completed inline, was cancelled, was closed, or failed
  to register.

Hypothesis `UsageOk`: the documented usage (no second operation of the same direction is started on an object while
one is in flight).  Together with the correspondence check (every trace of the real loop is a history of the model) this
carries both clauses over to the implementation.
-/
import Sonic.Lemmas.LoopLedgerSim
import Sonic.Lemmas.LoopAcct

namespace Sonic.Props.Ledger
open Sonic.Model.Loop
open Sonic.Spec.Loop (Ev Ret Res OpKind ObjKind)
open Sonic.Spec.Ledger (L LFrame Rec UsageOk)

abbrev lrun := Sonic.Spec.Ledger.run

theorem lrun_cons {l l' : L} {e : Ev} {r : List Ev} : lrun l (e :: r) = some l' ↔ ∃ l1, lstep l e = some l1 ∧ lrun l1 r = some l' := by
  show (match lstep l e with | some l1 => lrun l1 r | none => none) = some l' ↔ _
  cases lstep l e with
  | none => exact ⟨fun h => (by cases h), fun ⟨_, h, _⟩ => (by cases h)⟩
  | some l1 => exact ⟨fun h => ⟨l1, rfl, h⟩, fun ⟨_, h, h'⟩ => by cases h; exact h'⟩

theorem lrun_append : ∀ (a b : List Ev) (l : L), lrun l (a ++ b) = (lrun l a).bind (fun l1 => lrun l1 b)
  | [], b, l => rfl
  | e :: r, b, l => by
    simp only [List.cons_append, lrun, Sonic.Spec.Ledger.run]
    cases Sonic.Spec.Ledger.step l e with
    | none => rfl
    | some l1 => exact lrun_append r b l1

/-- **Refinement, over whole histories.**  From coupled states that satisfy the invariants, every history the loop model
accepts under the documented usage is accepted by the ledger, event by event, and the final states are coupled again and
satisfy the invariants. -/
theorem run_sim : ∀ (evs : List Ev) (w w' : World) (l : L), AcctInv w → TimerInv w → LInv w → Sim w l → UsageOk l evs →
    run w evs = some w' → ∃ l', lrun l evs = some l' ∧ Sim w' l' ∧ AcctInv w' ∧ TimerInv w' ∧ LInv w'
  | [], w, w', l, hA, hT, hI, hS, _, h => by
    simp only [run] at h; cases h
    exact ⟨l, rfl, hS, hA, hT, hI⟩
  | e :: r, w, w', l, hA, hT, hI, hS, hU, h => by
    simp only [run] at h
    cases hs : step w e with
    | none => simp [hs] at h
    | some w1 =>
      simp only [hs] at h
      obtain ⟨l1, hl1, hS1⟩ := step_sim w w1 l e hA hT hI hS hU.1 hs
      obtain ⟨l', hl', hrest⟩ := run_sim r w1 w' l1 (step_acct w w1 e hA hs) (step_timer w w1 e hT hs) (step_linv w w1 e hI hs) hS1
        (hU.2 l1 hl1) h
      exact ⟨l', lrun_cons.2 ⟨l1, hl1, hl'⟩, hrest⟩

theorem lrun_rest {a b : List Ev} {w w' : World} {l l1 : L} (hA : AcctInv w) (hT : TimerInv w) (hI : LInv w) (hS : Sim w l)
    (hU : UsageOk l (a ++ b)) (h : run w (a ++ b) = some w') (hl : lrun l a = some l1) : ∃ l', lrun l1 b = some l' := by
  obtain ⟨l', hl', _⟩ := run_sim (a ++ b) w w' l hA hT hI hS hU h
  rw [lrun_append, hl] at hl'
  exact ⟨l', hl'⟩

/-- **C01 / C03 (ledger).** Every history of the loop model that respects the documented usage is accepted by the
API-level ledger: callbacks are entered only when owed (or inline in their own starting call), and every `Pending()` /
`Posted()` observation made while no handler executes equals the number of operations / posted handlers in flight. -/
theorem ledger_accepts_model (evs : List Ev) (w : World) (h : run {} evs = some w) (hU : UsageOk {} evs) :
    Sonic.Spec.Ledger.accepts evs = true := by
  obtain ⟨l, hl, _⟩ := run_sim evs {} w {} acct_init timer_init linv_init sim_init hU h
  unfold Sonic.Spec.Ledger.accepts
  have : Sonic.Spec.Ledger.run {} evs = some l := hl
  rw [this]; rfl

/-- In every reachable state the ledger holds exactly (a permutation of) what the model's registered interests and queued
posts stand for; in particular their numbers agree. -/
theorem C03_owed_is_registered (evs : List Ev) (w : World) (h : run {} evs = some w) (hU : UsageOk {} evs) :
    ∃ l, lrun {} evs = some l ∧ (l.owed.length : Int) = bits w.objs + w.posts.length := by
  obtain ⟨l, hl, hS, _⟩ := run_sim evs {} w {} acct_init timer_init linv_init sim_init hU h
  exact ⟨l, hl, by rw [hS.owed.length_eq]; exact absOwed_length w⟩

/-- **C03 (Pending() equals the operations in flight), stated outright.** If the model accepts a history followed by a
`Pending()` / `Posted()` observation `(p, q)`, and no handler is executing at that point, then `p` is the number of
operations the ledger owes after that history and `q` the number of posted handlers among them. -/
theorem C03_pending_is_operations_in_flight (evs : List Ev) (p q d : Int) (w : World) (l : L)
    (h : run {} (evs ++ [.callPending, .ret (.pending p q d)]) = some w)
    (hU : UsageOk {} (evs ++ [.callPending, .ret (.pending p q d)]))
    (hl : lrun {} evs = some l) (hq : Sonic.Spec.Ledger.quiet l.stack = true) :
    p = l.owed.length ∧ q = Sonic.Spec.Ledger.postsOwed l := by
  obtain ⟨l', h1⟩ := lrun_rest acct_init timer_init linv_init sim_init hU h hl
  obtain ⟨l1, h2, h3⟩ := lrun_cons.1 h1
  cases h2
  obtain ⟨l2, h4, _⟩ := lrun_cons.1 h3
  exact lstep_ret_pending_inv (l := { l with stack := .pending :: l.stack }) rfl hq h4

/-- **C01 (only owed callbacks).** If the model accepts a history followed by the entry of the callback of `op`, the
ledger after that history either is inside the call that starts `op` (inline completion) or owes `op`. -/
theorem C01_callback_only_when_owed (evs : List Ev) (op : Nat) (res : Res) (n : Int) (data : List UInt8) (early : Bool)
    (w : World) (l : L) (h : run {} (evs ++ [.enter op res n data early]) = some w)
    (hU : UsageOk {} (evs ++ [.enter op res n data early])) (hl : lrun {} evs = some l) :
    (∃ r rest, (l.stack = .start r false :: rest ∨ l.stack = .sched r false :: rest) ∧ r.id = op) ∨
    (∃ r, r ∈ l.owed ∧ r.id = op) := by
  obtain ⟨l', h1⟩ := lrun_rest acct_init timer_init linv_init sim_init hU h hl
  obtain ⟨l1, h2, _⟩ := lrun_cons.1 h1
  exact lstep_enter_inv h2

/-- A history with a deferred read, a post, a timer, a cancellation and a close is produced by the model, respects the
usage rule, and is accepted by the ledger with the reported counts. -/
def sample : List Ev :=
  [.obj 1 .stream, .obj 2 .timer, .callStart 11 1 .read 8, .ret .plain, .callPost 12, .ret (.err true),
   .callSched 13 2 false 3, .ret (.err true), .callPending, .ret (.pending 3 1 0),
   .callPoll, .enter 12 .post 0 [] false, .exit 12, .enter 11 .ok 5 [] false, .callStart 14 1 .read 4, .ret .plain, .exit 11,
   .ret (.poll 2 .ok), .callPending, .ret (.pending 2 0 0), .callTCancel 2, .ret (.err true), .callClose 1, .ret (.err true),
   .callPending, .ret (.pending 0 0 0)]

example : (run {} sample).isSome = true := by decide

example : Sonic.Spec.Ledger.accepts sample = true := by decide

/-- The ledger rejects a callback after Close … -/
example : Sonic.Spec.Ledger.accepts [.obj 1 .stream, .callStart 11 1 .read 8, .ret .plain, .callClose 1, .ret (.err true),
    .callPoll, .enter 11 .ok 5 [] false] = false := by decide

/-- … a second callback of the same operation … -/
example : Sonic.Spec.Ledger.accepts [.obj 1 .stream, .callStart 11 1 .read 8, .ret .plain,
    .callPoll, .enter 11 .ok 5 [] false, .exit 11, .enter 11 .ok 5 [] false] = false := by decide

/-- … a timer callback after a successful Cancel … -/
example : Sonic.Spec.Ledger.accepts [.obj 2 .timer, .callSched 13 2 false 3, .ret (.err true), .callTCancel 2, .ret (.err true),
    .callPoll, .enter 13 .timer 0 [] false] = false := by decide

/-- … and a `Pending()` that counts an operation which completed inline. -/
example : Sonic.Spec.Ledger.accepts [.obj 1 .stream, .callStart 11 1 .read 8, .enter 11 .ok 8 [] false, .exit 11, .ret .plain,
    .callPending, .ret (.pending 1 0 0)] = false := by decide

end Sonic.Props.Ledger
