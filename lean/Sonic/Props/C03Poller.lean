/-
C03, tie T — the poller bookkeeping the accounting theorems rest on, stated about the code itself.

`Sonic.Gen.Poller` is regenerated from `internal/poll_linux.go` on every run (`setRW`, `SetRead`, `SetWrite`, `DelRead`,
`DelWrite`, `Del`).  A state `s : poller` is one slot as the poller sees it: `s.slot_Events` (the `uint32` mask),
`s.pending` (the poller's counter), `s.oracle` (what the `epoll_ctl` wrappers `add / modify / del` will answer, call by
call — universally quantified in every theorem) and `s.calls` (the system calls made so far).

The theorems say: the generated functions act on `(read interest, write interest, pending)` exactly like the helpers of
the hand-written loop model `Sonic.Model.Loop` over which `C03_pending_accounting` is proved; and, directly on the
generated code, that `pending` moves by +1 exactly on a first successful registration of a direction, by −1 exactly on
removal of a set direction, and never otherwise.  Further: which `epoll_ctl` call the mask decides
(`C03_poller_syscall_follows_mask`), the balance over any sequence of calls (`C03_poller_run_balanced`), and which
methods write `pending`, all atomically, from the access table `Sonic.Gen.PostAccess` (`C03_poller_pending_writers`).
-/
import Sonic.Lemmas.PollerTie
import Sonic.Gen.PostAccess

namespace Sonic.Props.C03
open Sonic.Gen.Poller
open Sonic.Lemmas.PollerTie
open Sonic.Model.Loop
open Sonic.Spec.Loop (ObjKind)

/-- **C03 (tie T, the two event flags).** The flags the source defines do not overlap and are not empty — what the
source's `init()` checks at start-up, proved for the constants read from the source on this run. -/
theorem C03_poller_flags_distinct :
    PollerReadEvent &&& PollerWriteEvent = 0 ∧ PollerReadEvent ≠ 0 ∧ PollerWriteEvent ≠ 0 :=
  ⟨flags_disjoint, read_ne_zero, write_ne_zero⟩

/-- **C03 (tie T, registration).** Whenever the generated state and the model agree on a slot (`absOf s = viewOf w o`) and
the system call succeeds, `SetRead` / `SetWrite` return nil and leave the slot exactly as the model's `setRead` / `setWrite`
(and `armTimer`, which is `SetRead` on a timer slot) leave it: same interest bits, same pending count. -/
theorem C03_poller_set_refines_model (s : poller) (w : World) (o : Obj) (op : Nat)
    (hg : getObj w o.id = some o) (hrel : absOf s = viewOf w o) (hp : PendOk s) (hok : ans s.oracle = .nil) :
    (s.SetRead.2 = .nil ∧ viewAt (setRead w o op) o.id = some (absOf s.SetRead.1)) ∧
    (s.SetWrite.2 = .nil ∧ viewAt (setWrite w o op) o.id = some (absOf s.SetWrite.1)) ∧
    (∀ rep, viewAt (armTimer w o op rep) o.id = some (absOf s.SetRead.1)) := by
  have hr := SetRead_view s hp hok
  have hw := SetWrite_view s hp hok
  refine ⟨⟨hr.2, ?_⟩, ⟨hw.2, ?_⟩, fun rep => ?_⟩
  · rw [model_setRead_view w o op hg, hr.1, hrel]
  · rw [model_setWrite_view w o op hg, hw.1, hrel]
  · rw [model_armTimer_view w o op rep hg, hr.1, hrel]

/-- **C03 (tie T, failed registration).** If the system call fails, `SetRead` / `SetWrite` leave the mask and `pending`
exactly as they were and report the error (the model takes no `setRead` / `setWrite` step then: the operation completes
with the error instead). -/
theorem C03_poller_set_failure_changes_nothing (s : poller) (hf : ans s.oracle ≠ .nil) :
    (s.SetRead.1.slot_Events = s.slot_Events ∧ s.SetRead.1.pending = s.pending ∧ (rd s = false → s.SetRead.2 ≠ .nil)) ∧
    (s.SetWrite.1.slot_Events = s.slot_Events ∧ s.SetWrite.1.pending = s.pending ∧ (wr s = false → s.SetWrite.2 ≠ .nil)) := by
  have R := setRW_fail s s.slot_Fd PollerReadEvent hf
  have W := setRW_fail s s.slot_Fd PollerWriteEvent hf
  rw [SetRead_eq, SetWrite_eq]
  exact ⟨⟨R.1, R.2.1, fun h e => hf ((R.2.2 h).symm.trans e)⟩, ⟨W.1, W.2.1, fun h e => hf ((W.2.2 h).symm.trans e)⟩⟩

/-- **C03 (tie T, removal).** For every oracle — whatever `epoll_ctl` answers — `DelRead` / `DelWrite` leave the slot
exactly as the model's `delRead` / `delWrite`: the bit is cleared and `pending` decremented iff the bit was set. -/
theorem C03_poller_del_refines_model (s : poller) (w : World) (o : Obj)
    (hg : getObj w o.id = some o) (hrel : absOf s = viewOf w o) (hp : PendOk s) :
    viewAt (delRead w o) o.id = some (absOf s.DelRead.1) ∧ viewAt (delWrite w o) o.id = some (absOf s.DelWrite.1) := by
  unfold PendOk at hp
  constructor
  · rw [model_delRead_view w o hg, DelRead_view s (by omega) (by omega), hrel]
  · rw [model_delWrite_view w o hg, DelWrite_view s (by omega) (by omega), hrel]

/-- **C03 (tie T, close).** For every oracle `Del` removes both directions and uncounts each that was set: it leaves the
slot as the model's `closeObj` does (objects other than timers), and `pending` as `unsetPending` does (timer slots, which
never carry the write interest). -/
theorem C03_poller_close_refines_model (s : poller) (w : World) (o : Obj)
    (hg : getObj w o.id = some o) (hrel : absOf s = viewOf w o) (hp : PendOk s) :
    (o.kind ≠ .timer → viewAt (closeObj w o) o.id = some (absOf s.Del.1)) ∧
    (o.evW = false → (unsetPending w o).pending = s.Del.1.pending ∧ rd s.Del.1 = false ∧ wr s.Del.1 = false) := by
  have hd := Del_view s hp
  constructor
  · intro hk
    rw [model_closeObj_view w o hk hg, hd, hrel]
  · intro hW
    have hv := model_unset_view w o { o with evR := false } hW rfl hW
    rw [← hrel, ← hd] at hv
    have h1 := congrArg PView.pending hv
    have h2 := congrArg PView.evR hv
    have h3 := congrArg PView.evW hv
    simp only [viewOf, absOf] at h1 h2 h3
    exact ⟨h1, h2.symm, by rw [← h3]; exact hW⟩

/-- **C03 (tie T, counting — stated on the generated code alone).** For every slot state and every oracle:
`SetRead` / `SetWrite` add one to `pending` exactly when the direction was not yet registered and the system call
succeeded; `DelRead` / `DelWrite` subtract one exactly when the direction was registered; `Del` subtracts one per
registered direction; nothing else changes `pending`. -/
theorem C03_poller_pending_delta (s : poller) (hp : PendOk s) :
    s.SetRead.1.pending = s.pending + (if rd s = false ∧ ans s.oracle = .nil then 1 else 0) ∧
    s.SetWrite.1.pending = s.pending + (if wr s = false ∧ ans s.oracle = .nil then 1 else 0) ∧
    s.DelRead.1.pending = s.pending - (if rd s = true then 1 else 0) ∧
    s.DelWrite.1.pending = s.pending - (if wr s = true then 1 else 0) ∧
    s.Del.1.pending = s.pending - nbits s := by
  obtain ⟨⟨l, u⟩, l', u'⟩ :
      (Go.I64MIN ≤ s.pending ∧ s.pending + 1 ≤ Go.I64MAX) ∧ Go.I64MIN + 1 ≤ s.pending ∧ s.pending ≤ Go.I64MAX := by
    unfold PendOk at hp; omega
  rw [SetRead_eq, SetWrite_eq, DelRead_eq, DelWrite_eq]
  exact ⟨setRW_pending s _ _ l u, setRW_pending s _ _ l u, delRW_pending s _ l' u', delRW_pending s _ l' u',
    congrArg PView.pending (Del_view s hp)⟩

/-- **C03 (tie T, the interest bits afterwards).** For every slot state and every oracle: after `SetRead` the read
interest is set iff it was set before or the system call succeeded, and the write interest is untouched; after `DelRead`
the read interest is clear and the write interest untouched; symmetrically for write; after `Del` both are clear. -/
theorem C03_poller_bits_after (s : poller) :
    (rd s.SetRead.1 = (rd s || decide (ans s.oracle = .nil)) ∧ wr s.SetRead.1 = wr s) ∧
    (wr s.SetWrite.1 = (wr s || decide (ans s.oracle = .nil)) ∧ rd s.SetWrite.1 = rd s) ∧
    (rd s.DelRead.1 = false ∧ wr s.DelRead.1 = wr s) ∧
    (wr s.DelWrite.1 = false ∧ rd s.DelWrite.1 = rd s) ∧
    (rd s.Del.1 = false ∧ wr s.Del.1 = false) := by
  have dr := delRW_bits s flags_disjoint read_ne_zero
  have dw := fun t => delRW_bits t flags_disjoint' write_ne_zero
  simp only [Del_eq, SetRead_eq, SetWrite_eq, DelRead_eq, DelWrite_eq]
  exact ⟨setRW_bits s _ flags_disjoint, setRW_bits s _ flags_disjoint', dr, dw s, (dw _).2.trans dr.1, (dw _).1⟩

/-- The calls the rest of the library makes on a slot. -/
inductive POp where
  | setRead | setWrite | delRead | delWrite | del
  deriving DecidableEq, Repr

def POp.run : POp → poller → poller
  | .setRead, s => s.SetRead.1
  | .setWrite, s => s.SetWrite.1
  | .delRead, s => s.DelRead.1
  | .delWrite, s => s.DelWrite.1
  | .del, s => s.Del.1

def runOps : List POp → poller → poller
  | [], s => s
  | op :: r, s => runOps r (op.run s)

/-- The part of `pending` that is not explained by this slot's interests stays clear of the ends of `int64`. -/
def BaseOk (s : poller) : Prop := Go.I64MIN + 2 ≤ s.pending - nbits s ∧ s.pending - nbits s + 4 ≤ Go.I64MAX
instance (s : poller) : Decidable (BaseOk s) := by unfold BaseOk; exact inferInstance

theorem bit_set (a : Bool) (P : Prop) [Decidable P] :
    ((if (a || decide P) then 1 else 0 : Int)) = (if a then 1 else 0) + (if a = false ∧ P then 1 else 0) := by
  cases a <;> by_cases h : P <;> simp [h]

theorem step_balanced (op : POp) (s : poller) (h : BaseOk s) :
    (op.run s).pending - nbits (op.run s) = s.pending - nbits s := by
  have hp : PendOk s := by
    have : 0 ≤ nbits s ∧ nbits s ≤ 2 := by unfold nbits; split <;> split <;> omega
    unfold BaseOk at h; unfold PendOk; omega
  have D := C03_poller_pending_delta s hp
  have B := C03_poller_bits_after s
  cases op with
  | setRead => simp only [POp.run, nbits, D.1, B.1.1, B.1.2, bit_set]; omega
  | setWrite => simp only [POp.run, nbits, D.2.1, B.2.1.1, B.2.1.2, bit_set]; omega
  | delRead => simp only [POp.run, nbits, D.2.2.1, B.2.2.1.1, B.2.2.1.2, Bool.false_eq_true, if_false]; omega
  | delWrite => simp only [POp.run, nbits, D.2.2.2.1, B.2.2.2.1.1, B.2.2.2.1.2, Bool.false_eq_true, if_false]; omega
  | del => simp only [POp.run, nbits, D.2.2.2.2, B.2.2.2.2.1, B.2.2.2.2.2, Bool.false_eq_true, if_false]; omega

/-- **C03 (tie T, accounting of one slot over any history).** For every sequence of `SetRead / SetWrite / DelRead /
DelWrite / Del` calls on a slot and every sequence of system-call outcomes, `pending` minus the number of interests set in
the slot's mask is what it was at the start: the generated code keeps, per slot, the balance that `C03_pending_accounting`
sums over all objects. -/
theorem C03_poller_run_balanced (ops : List POp) (s : poller) (h : BaseOk s) :
    (runOps ops s).pending - nbits (runOps ops s) = s.pending - nbits s := by
  induction ops generalizing s with
  | nil => rfl
  | cons op r ih =>
    have hs := step_balanced op s h
    have h' : BaseOk (op.run s) := by unfold BaseOk at h ⊢; rw [hs]; exact h
    simp only [runOps]
    rw [ih (op.run s) h', hs]

/-- Special case: a fresh slot (empty mask). Afterwards `pending` exceeds its initial value by exactly the number of
interests that are set. -/
theorem C03_poller_run_from_empty (ops : List POp) (s : poller) (h0 : s.slot_Events = 0)
    (hb : Go.I64MIN + 2 ≤ s.pending ∧ s.pending + 4 ≤ Go.I64MAX) :
    (runOps ops s).pending = s.pending + nbits (runOps ops s) := by
  have hz := rd_wr_of_zero h0
  have hn : nbits s = 0 := by simp [nbits, hz.1, hz.2]
  have := C03_poller_run_balanced ops s (by unfold BaseOk; rw [hn]; omega)
  rw [hn] at this
  omega

/-- **C03 (tie T, one `epoll_ctl` per change).** A registration that is already there makes no system call; a new one
makes exactly one — `EPOLL_CTL_ADD` iff the mask was empty, else `EPOLL_CTL_MOD` — carrying the new mask; a removal of a
set direction makes exactly one — `EPOLL_CTL_MOD` with the remaining mask, or `EPOLL_CTL_DEL` when nothing remains; a
removal of a clear direction makes none. -/
theorem C03_poller_syscall_follows_mask (s : poller) :
    (rd s = true → s.SetRead.1.calls = s.calls) ∧
    (rd s = false → s.SetRead.1.calls =
        ((if s.slot_Events = 0 then Ext.add else Ext.modify), [s.slot_Fd, Int.ofNat (s.slot_Events ||| PollerReadEvent).toNat]) :: s.calls) ∧
    (wr s = true → s.SetWrite.1.calls = s.calls) ∧
    (wr s = false → s.SetWrite.1.calls =
        ((if s.slot_Events = 0 then Ext.add else Ext.modify), [s.slot_Fd, Int.ofNat (s.slot_Events ||| PollerWriteEvent).toNat]) :: s.calls) ∧
    (rd s = false → s.DelRead.1.calls = s.calls) ∧
    (rd s = true → s.DelRead.1.calls =
        (if s.slot_Events ^^^ PollerReadEvent ≠ 0
         then (Ext.modify, [s.slot_Fd, Int.ofNat (s.slot_Events ^^^ PollerReadEvent).toNat])
         else (Ext.del, [s.slot_Fd])) :: s.calls) ∧
    (wr s = false → s.DelWrite.1.calls = s.calls) ∧
    (wr s = true → s.DelWrite.1.calls =
        (if s.slot_Events ^^^ PollerWriteEvent ≠ 0
         then (Ext.modify, [s.slot_Fd, Int.ofNat (s.slot_Events ^^^ PollerWriteEvent).toNat])
         else (Ext.del, [s.slot_Fd])) :: s.calls) := by
  refine ⟨fun h => ?_, fun h => ?_, fun h => ?_, fun h => ?_, fun h => ?_, fun h => ?_, fun h => ?_, fun h => ?_⟩
  · rw [SetRead_eq, setRW_eq, if_pos (has_true.1 h)]
  · rw [SetRead_eq, setRW_eq, if_neg (has_false.1 h)]
  · rw [SetWrite_eq, setRW_eq, if_pos (has_true.1 h)]
  · rw [SetWrite_eq, setRW_eq, if_neg (has_false.1 h)]
  · rw [DelRead_eq, delRW_eq, if_neg (has_false.1 h)]
  · rw [DelRead_eq, delRW_eq, if_pos (has_true.1 h)]
  · rw [DelWrite_eq, delRW_eq, if_neg (has_false.1 h)]
  · rw [DelWrite_eq, delRW_eq, if_pos (has_true.1 h)]

/-! ### Who else writes `pending` (access table and statement order of the same file, regenerated on every run) -/

open Sonic.Gen.PostAccess in
/-- **C03 (tie T, the other writers of `pending`).** In `internal/poll_linux.go` the methods that write `poller.pending`
are, in source order, `Post`, `dispatch`, `setRW`, `DelRead`, `DelWrite` — each through `sync/atomic` — and no other.
`Post` increments it once (after appending the handler, before waking the loop) and never decrements; `dispatch`
decrements it once per handler, after running it, and never increments — the `+1` of the model's `Post` transition and the
`−1` of its `postDone` frame. -/
theorem C03_poller_pending_writers :
    ((table.filter fun a => a.field == "pending" && a.write).map (·.fn)) = ["Post", "dispatch", "setRW", "DelRead", "DelWrite"] ∧
    (∀ a ∈ table, a.field = "pending" → a.atomic = true) ∧
    seqPost.count "atomic-inc:pending" = 1 ∧ seqPost.count "atomic-dec:pending" = 0 ∧
    seqDispatch.count "atomic-dec:pending" = 1 ∧ seqDispatch.count "atomic-inc:pending" = 0 ∧
    seqDispatch.drop (seqDispatch.length - 4) = ["range{", "run", "atomic-dec:pending", "}"] := by
  decide +kernel

/-- A fresh stream object in the model and the matching generated state (`pending = 3` from other objects). -/
def demoW : World := { objs := [{ id := 1, kind := .stream }], pending := 3 }
def demoO : Obj := { id := 1, kind := .stream }
def demoS (oracle : List Go.Error) : poller := { oracle := oracle, calls := [], pending := 3, slot_Fd := 9, slot_Events := 0 }

-- the hypotheses of the refinement theorems are met, and the result is not trivial: pending 3 → 4, read interest set
example : getObj demoW demoO.id = some demoO ∧ absOf (demoS []) = viewOf demoW demoO ∧ PendOk (demoS []) ∧
    ans (demoS []).oracle = .nil ∧ absOf (demoS []).SetRead.1 = { evR := true, evW := false, pending := 4 } := by decide +kernel
-- a failing registration: the error comes back, nothing is counted
example : ans (demoS [.err 1]).oracle ≠ .nil ∧ (demoS [.err 1]).SetRead = ({ demoS [] with calls := [(.add, [9, 1])] }, .err 1) := by
  decide +kernel
-- both directions registered (second system call is a MOD with mask 5), then `Del` with a failing first system call:
-- both uncounted, both bits clear, two system calls (MOD 4, DEL)
example : (runOps [.setRead, .setWrite] (demoS [])).pending = 5 ∧
    (runOps [.setRead, .setWrite] (demoS [])).calls = [(.modify, [9, 5]), (.add, [9, 1])] ∧
    (runOps [.setRead, .setWrite, .del] (demoS [.nil, .nil, .err 7])).pending = 3 ∧
    (runOps [.setRead, .setWrite, .del] (demoS [.nil, .nil, .err 7])).slot_Events = 0 ∧
    (runOps [.setRead, .setWrite, .del] (demoS [.nil, .nil, .err 7])).calls =
      [(.del, [9]), (.modify, [9, 4]), (.modify, [9, 5]), (.add, [9, 1])] := by decide +kernel
-- a model state with both interests set, closed: hypotheses of the close theorem are met
example : let w : World := { objs := [{ id := 1, kind := .stream, evR := true, evW := true }], pending := 5 }
    let o : Obj := { id := 1, kind := .stream, evR := true, evW := true }
    let s : poller := { oracle := [], calls := [], pending := 5, slot_Fd := 9, slot_Events := 5 }
    getObj w o.id = some o ∧ absOf s = viewOf w o ∧ PendOk s ∧ o.kind ≠ .timer ∧ (closeObj w o).pending = 3 ∧
      s.Del.1.pending = 3 := by decide +kernel
example : BaseOk (demoS [.err 1, .nil]) := by decide +kernel
-- other bits of the mask (never set by the library) are carried along untouched
example : ({ demoS [] with slot_Events := 0x18 } : poller).SetWrite.1.DelWrite.1.slot_Events = 0x18 := by decide +kernel

end Sonic.Props.C03
