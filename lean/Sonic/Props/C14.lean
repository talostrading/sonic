/-
C14 — Inline completions never nest deeper than the dispatch limit.

Theorems about the loop model: `IO.Dispatched` always equals a base value (0, or what the program stored in the
public field while at top level) plus the number of inline-completion frames on the stack; an inline completion is
only taken while the counter is below `MaxCallbackDispatch`; hence at most `MaxCallbackDispatch` inline-completion
frames are ever nested, whatever mix of objects the chain runs over and however long it is; at the limit the
operation is deferred (registered with the poller); once the stack unwinds the counter is back at its base.
The remaining callback frames on a stack are those dispatched by the poller (one per `poll` frame), those delivered
by `Cancel`, and immediate failures of a deferred start (closed object / registration refused), which are not
immediately completed operations.
-/
import Sonic.Lemmas.LoopDisp

namespace Sonic.Props.C14
open Sonic.Model.Loop
open Sonic.Spec.Loop (Ev Ret Res OpKind ObjKind maxDispatch)

/-- The model accepts `evs` from `w` ending in `w'`, and the program stores into `IO.Dispatched` only at top level
and only non-negative values (`EvOk`). -/
inductive RunOk : World → List Ev → World → Prop where
  | nil (w : World) : RunOk w [] w
  | cons {w w1 w2 : World} {e : Ev} {es : List Ev} : EvOk w e → step w e = some w1 → RunOk w1 es w2 → RunOk w (e :: es) w2

theorem run_disp {w w' : World} {evs : List Ev} (h : RunOk w evs w') : ∀ b, DispInv b w → ∃ b', DispInv b' w' := by
  induction h with
  | nil w => intro b hI; exact ⟨b, hI⟩
  | cons hev hs _ ih =>
    intro b hI
    obtain ⟨b1, h1⟩ := step_disp hI hev hs
    exact ih b1 h1

theorem disp_init : DispInv 0 ({} : World) := ⟨Int.le_refl 0, by simp [decFrames], by simp [DispOk]⟩

/-- **C14 (accounting).** In every reachable state the counter is a non-negative base plus the number of nested
inline completions, each of which was entered below the limit. -/
theorem C14_dispatch_accounting (evs : List Ev) (w : World) (h : RunOk {} evs w) : ∃ b, DispInv b w :=
  run_disp h 0 disp_init

/-- **C14 (depth bound).** However many operations complete immediately and are re-issued from their own
callbacks, over any mix of objects, at most `MaxCallbackDispatch` inline completions are nested. -/
theorem C14_inline_depth_bounded (evs : List Ev) (w : World) (h : RunOk {} evs w) :
    decFrames w.stack ≤ (maxDispatch : Int) := by
  obtain ⟨b, hb, _, hok⟩ := C14_dispatch_accounting evs w h
  exact decFrames_le b hb w.stack hok

/-- **C14 (back to zero).** Once the stack has unwound, the depth accounting is back at its base; with no explicit
store into the counter the base is zero. -/
theorem C14_counter_restored (evs : List Ev) (w : World) (h : RunOk {} evs w) (htop : w.stack = []) :
    ∃ b, 0 ≤ b ∧ w.dispatched = b := by
  obtain ⟨b, hb, hd, _⟩ := C14_dispatch_accounting evs w h
  exact ⟨b, hb, by rw [hd, htop]; simp [decFrames]⟩

def NoSetDisp : List Ev → Prop
  | [] => True
  | .callSetDisp _ :: _ => False
  | _ :: r => NoSetDisp r

theorem NoSetDisp.cons {e : Ev} {es : List Ev} (h : NoSetDisp (e :: es)) : (∀ n, e ≠ .callSetDisp n) ∧ NoSetDisp es := by
  cases e <;> first | exact ⟨fun _ he => (by cases he), h⟩ | exact False.elim h

theorem run_disp_zero {w w' : World} {evs : List Ev} (h : RunOk w evs w') (hn : NoSetDisp evs) :
    DispInv 0 w → DispInv 0 w' := by
  induction h with
  | nil w => exact id
  | @cons w w1 w2 e es hev hs _ ih =>
    intro hI
    obtain ⟨hne, hn'⟩ := hn.cons
    exact ih hn' (step_disp_same_base hI hev hs hne)

/-- With no explicit store into the counter, it is exactly the number of nested inline completions, and zero at
top level. -/
theorem C14_counter_zero_when_idle (evs : List Ev) (w : World) (h : RunOk {} evs w) (hn : NoSetDisp evs) :
    w.dispatched = decFrames w.stack ∧ (w.stack = [] → w.dispatched = 0) := by
  obtain ⟨_, hd, _⟩ := run_disp_zero h hn disp_init
  refine ⟨by omega, ?_⟩
  intro htop; rw [hd, htop]; simp [decFrames]

/-- **C14 (deferred at the limit).** When the counter has reached the limit, a start call cannot complete inline
through the counted path: the only callbacks the library can deliver inside the call are the failure of the deferred
start itself (closed object, registration refused). -/
theorem C14_deferred_at_limit (w w' : World) (op k : Nat) (kind : OpKind) (rest : List K) (o : Obj)
    (res : Res) (n : Int) (data : List UInt8) (early : Bool)
    (hst : w.stack = .startCall op k kind false :: rest) (hg : getObj w k = some o)
    (hlim : (maxDispatch : Int) ≤ w.dispatched)
    (hs : step w (.enter op res n data early) = some w') :
    (o.closed = true ∧ res = .eof) ∨ res = .err := by
  unfold step at hs
  simp only [hst, hg] at hs
  replace hs := (of_ite_none hs).2
  by_cases hin : (hasInline o.kind && decide (w.dispatched < (maxDispatch : Int))) = true
  · simp only [Bool.and_eq_true, decide_eq_true_eq] at hin
    omega
  · rw [if_neg hin] at hs
    simpa using (of_ite_else_none hs).1

theorem runOk_of_run : ∀ (evs : List Ev) (w w' : World), run w evs = some w' → NoSetDisp evs → RunOk w evs w'
  | [], w, w', h, _ => by simp only [run] at h; cases h; exact .nil w
  | e :: es, w, w', h, hn => by
    simp only [run] at h
    cases hs : step w e with
    | none => simp [hs] at h
    | some w1 =>
      simp only [hs] at h
      obtain ⟨hne, hn'⟩ := hn.cons
      have hev : EvOk w e := by cases e <;> first | trivial | exact absurd rfl (hne _)
      exact .cons hev hs (runOk_of_run es w1 w' h hn')

/-! Non-vacuity: a poller-dispatched handler that starts a read completing inline, whose handler starts another one:
two nested inline completions, the counter is 2 inside and 0 again at top level. -/
example : ∃ w, run {} [.obj 1 .stream, .callStart 11 1 .read 8, .ret .plain, .callPoll, .enter 11 .ok 8 [] false,
                       .callStart 12 1 .read 4, .enter 12 .ok 4 [] false,
                       .callStart 13 1 .read 4, .enter 13 .ok 4 [] false] = some w
              ∧ w.dispatched = 2 ∧ decFrames w.stack = 2 := ⟨_, rfl, by decide, by decide⟩

example : ∃ w, run {} [.obj 1 .stream, .callStart 11 1 .read 8, .enter 11 .ok 8 [] false, .exit 11, .ret .plain] = some w
              ∧ w.dispatched = 0 ∧ w.stack = [] := ⟨_, rfl, by decide, by decide⟩

end Sonic.Props.C14
