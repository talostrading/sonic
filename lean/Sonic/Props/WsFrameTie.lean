/-
C07 / C15 / C16, tie T — the websocket frame header logic the three properties rest on, stated about the code itself.

`Sonic.Gen.WsFrameBits` is regenerated on every run from `codec/websocket/frame.go` (`ExtendedPayloadLengthBytes`,
`PayloadLength`, `IsFIN`, `IsRSV1..3`, `Opcode`, `IsMasked`, `MaskBytes`, the `Set*` bit setters, `clearOpcode`, `SetOpcode`,
`extendedPayloadLengthOffset`, `maskOffset`, `payloadOffset`, `setPayloadLength`), `codec/websocket/rfc6455.go` (the opcode
predicates, `ValidCloseCode`, every constant they mention) and `util/bytes.go` (`ExtendSlice`).  A slice value is
`Go.Bytes` (backing array up to the capacity, length); `lift` reads a result of generated code (value or Go panic) as a
result of the models' monad; `natM` reads a natural-number result of the model as a Go `int`.

The theorems say that the generated functions are the definitions of the hand-written models (`Model/WsFrame.lean`,
`Model/WsEncode.lean`, `Model/WsStream.lean`, `Spec/WsStream.lean`) over which C07, C15 and C16 are proved — for every
slice content: all 2^16 combinations of the two mandatory header bytes, every extended length, every length of the
slice (a too short one panics on both sides).
-/
import Sonic.Lemmas.WsFrameTie

open Sonic.Gen.WsFrameBits
open Sonic.Lemmas.WsFrameTie
open Sonic.Model
open Sonic.Model.WsEncode (PFrame)

namespace Sonic.Props.C07

/-- **C07 (tie T, header accessors).** For every slice value — any content, any length, any spare capacity — the
accessors the decoder uses are the model's: the same value, or the same index-out-of-range panic. -/
theorem C07_tie_header_accessors (b : Go.Bytes) :
    lift (Frame.ExtendedPayloadLengthBytes b) = natM (WsFrame.ExtendedPayloadLengthBytes b.toList) ∧
    lift (Frame.IsFIN b) = WsFrame.IsFIN b.toList ∧
    lift (Frame.IsRSV1 b) = WsFrame.IsRSV1 b.toList ∧
    lift (Frame.IsRSV2 b) = WsFrame.IsRSV2 b.toList ∧
    lift (Frame.IsRSV3 b) = WsFrame.IsRSV3 b.toList ∧
    lift (Frame.Opcode b) = WsFrame.Opcode b.toList ∧
    lift (Frame.IsMasked b) = WsFrame.IsMasked b.toList ∧
    lift (Frame.MaskBytes b) = natM (WsFrame.MaskBytes b.toList) ∧
    lift (Frame.maskOffset b) = natM (WsFrame.maskOffset b.toList) ∧
    lift (Frame.payloadOffset b) = natM (WsFrame.payloadOffset b.toList) :=
  ⟨extLenBytes_eq b, isFIN_eq b, isRSV1_eq b, isRSV2_eq b, isRSV3_eq b, opcode_eq b, isMasked_eq b, maskBytes_eq b,
   maskOffset_eq b, payloadOffset_eq b⟩

/-- **C07 (tie T, the constants).** The header, mask and maximal header lengths read from the source are the model's, and the
extended length field starts at offset 2. -/
theorem C07_tie_constants :
    frameHeaderLength = (WsFrame.frameHeaderLength : Int) ∧ frameMaskLength = (WsFrame.frameMaskLength : Int) ∧
    frameMaxHeaderLength = (WsFrame.frameMaxHeaderLength : Int) ∧ Frame.extendedPayloadLengthOffset (Go.Bytes.ofList []) = 2 := by
  decide

/-- **C07 (tie T, `PayloadLength`).** On every byte string (a slice without spare capacity) the generated `PayloadLength`
is the model's: the 7-bit length, the 16-bit big-endian length, the 64-bit big-endian length read as a two's-complement
`int`, or the panic of a slice that is too short for its length field. -/
theorem C07_tie_payload_length (l : List UInt8) :
    lift (Frame.PayloadLength (Go.Bytes.ofList l)) = WsFrame.PayloadLength l :=
  payloadLength_eq l

/-- **C07 (tie T, `PayloadLength` with spare capacity).** The decoder's frame aliases the buffer and has spare capacity;
Go lets a slice expression reach into it, the model refuses.  Whenever the model yields a length, the generated code
yields the same one. -/
theorem C07_tie_payload_length_spare_capacity (b : Go.Bytes) (v : Int) (h : WsFrame.PayloadLength b.toList = .ok v) :
    Frame.PayloadLength b = .ok v :=
  payloadLength_refines b v h

/-- **C07 (tie T, 64-bit lengths).** A 64-bit length field below 2^63 is returned as it is; one with the top bit set comes
back as a negative `int` — which `Decode` refuses (`payloadLength < 0`, `C07_bounded_top_bit`). -/
theorem C07_tie_payload_length_64 (l : List UInt8) (h10 : 10 ≤ l.length) (h127 : (l.getD 1 0 &&& 127) = 127) :
    ∃ v, Frame.PayloadLength (Go.Bytes.ofList l) = .ok v ∧
      (Sonic.Spec.WsFrame.beNat ((l.drop 2).take 8) < 2 ^ 63 → v = Sonic.Spec.WsFrame.beNat ((l.drop 2).take 8)) ∧
      (2 ^ 63 ≤ Sonic.Spec.WsFrame.beNat ((l.drop 2).take 8) → v < 0) := by
  rcases idx_cases1 (Go.Bytes.ofList l) with ⟨x, h1, -, -, -, hx⟩ | ⟨-, -, hn⟩
  · have hx' : x = l.getD 1 0 := hx
    rw [payloadLength_gen _ x h1, hx', if_pos h127]
    rw [show (Go.Bytes.ofList l).arr = l from rfl, if_pos h10]
    refine ⟨_, rfl, ?_, ?_⟩
    · intro hlt; exact u64ToInt_id _ hlt
    · intro hge
      exact u64ToInt_neg _ hge (WsFrame.beNat_lt_of_length_le (k := 8) (by rw [List.length_take]; omega))
  · exfalso; apply hn
    simp only [Go.Bytes.ofList]; omega

end Sonic.Props.C07

namespace Sonic.Props.C15

/-- **C15 (tie T, reserved opcodes).** `Opcode.IsReserved`, as written in the source with the source's opcode constants,
is the model's `isReserved` for each of the 256 byte values. -/
theorem C15_tie_opcode_reserved (c : UInt8) : Opcode.IsReserved c = WsStream.isReserved c.toNat := isReserved_eq c

/-- **C15 (tie T, control opcodes).** `Opcode.IsControl` (through `IsPing / IsPong / IsClose`) is the model's `isControl`. -/
theorem C15_tie_opcode_control (c : UInt8) : Opcode.IsControl c = WsStream.isControl c.toNat := isControl_eq c

/-- **C15 (tie T, the opcode table).** Which four-bit opcodes the source treats as reserved and as control:
reserved = 3–7 and 11–15, control = 8, 9, 10 (RFC 6455 §5.2 defines 0, 1, 2, 8, 9, 10). -/
theorem C15_tie_opcode_table :
    (List.range 16).filter (fun n => Opcode.IsReserved (UInt8.ofNat n)) = [3, 4, 5, 6, 7, 11, 12, 13, 14, 15] ∧
    (List.range 16).filter (fun n => Opcode.IsControl (UInt8.ofNat n)) = [8, 9, 10] := by
  decide +kernel

/-- **C15 (tie T, control payload limit).** The limit the source names is the 125 the model and the monitor use. -/
theorem C15_tie_control_payload_limit : MaxControlFramePayloadLength = 125 := by decide

/-- **C15 (tie T, close codes).** `ValidCloseCode`, with the source's close-code constants, is the specification's
`validCloseCode` for each of the 65536 values of a `uint16`. -/
theorem C15_tie_valid_close_code (c : UInt16) : ValidCloseCode c = Sonic.Spec.WsStream.validCloseCode c.toNat :=
  validCloseCode_eq c

end Sonic.Props.C15

namespace Sonic.Props.C16

/-- **C16 (tie T, the bit setters).** On every pooled frame (array + length, whatever an earlier use left there) the
generated setters are the model's. -/
theorem C16_tie_setters (f : PFrame) (c : UInt8) :
    lift (Frame.SetFIN (toB f)) = toB <$> f.SetFIN ∧
    lift (Frame.SetRSV1 (toB f)) = toB <$> f.SetRSV1 ∧
    lift (Frame.SetRSV2 (toB f)) = toB <$> f.SetRSV2 ∧
    lift (Frame.SetRSV3 (toB f)) = toB <$> f.SetRSV3 ∧
    lift (Frame.SetIsMasked (toB f)) = toB <$> f.SetIsMasked ∧
    lift (Frame.SetOpcode (toB f) c) = toB <$> f.SetOpcode c :=
  ⟨setFIN_eq f, setRSV1_eq f, setRSV2_eq f, setRSV3_eq f, setIsMasked_eq f, setOpcode_eq f c⟩

/-- **C16 (tie T, the named opcode setters)** are `SetOpcode` with the source's opcode constants 0, 1, 2, 8, 9, 10. -/
theorem C16_tie_named_opcode_setters (b : Go.Bytes) :
    Frame.SetContinuation b = Frame.SetOpcode b 0 ∧ Frame.SetText b = Frame.SetOpcode b 1 ∧
    Frame.SetBinary b = Frame.SetOpcode b 2 ∧ Frame.SetClose b = Frame.SetOpcode b 8 ∧
    Frame.SetPing b = Frame.SetOpcode b 9 ∧ Frame.SetPong b = Frame.SetOpcode b 10 := by
  refine ⟨?_, ?_, ?_, ?_, ?_, ?_⟩ <;>
    (simp only [Frame.SetContinuation, Frame.SetText, Frame.SetBinary, Frame.SetClose, Frame.SetPing, Frame.SetPong,
      OpcodeContinuation, OpcodeText, OpcodeBinary, OpcodeClose, OpcodePing, OpcodePong])

/-- **C16 (tie T, offsets on the writer side).** `maskOffset` and `payloadOffset` of a pooled frame are the model's. -/
theorem C16_tie_offsets (f : PFrame) :
    lift (Frame.maskOffset (toB f)) = natM (WsFrame.maskOffset f.bytes) ∧
    lift (Frame.payloadOffset (toB f)) = natM (WsFrame.payloadOffset f.bytes) :=
  ⟨maskOffset_eq (toB f), payloadOffset_eq (toB f)⟩

/-- **C16 (tie T, `ExtendSlice`).** `util.ExtendSlice` is the model's `extend`. -/
theorem C16_tie_extend_slice (f : PFrame) (need : Nat) (hc : (f.arr.length : Int) ≤ Go.I64MAX) (hn : (need : Int) ≤ Go.I64MAX) :
    ExtendSlice (toB f) need = .ok (toB (f.extend need)) :=
  extendSlice_eq f need hc hn

/-- **C16 (tie T, `setPayloadLength`).** For every pooled frame and every payload length the generated
`setPayloadLength` is the model's: re-extension of a shrunk frame to the full header, mask bit kept, length class chosen
at 125/126 and 65535/65536, extended length written big-endian. -/
theorem C16_tie_set_payload_length (f : PFrame) (n : Nat) (hc : (f.arr.length : Int) ≤ Go.I64MAX) :
    lift (Frame.setPayloadLength (toB f) n) = toB <$> f.setPayloadLength n :=
  setPayloadLength_eq f n hc

/-- A fresh 14-byte frame with the mask bit set. -/
def fresh : Go.Bytes := ⟨0 :: 0x80 :: List.replicate 12 0, 14⟩

/-- **C16 (tie T, length-class boundaries)**, on the generated code alone: a fresh 14-byte frame with the mask bit set,
given the lengths 125, 126, 65535, 65536. -/
theorem C16_tie_length_class_boundaries :
    (Frame.setPayloadLength fresh 125).toOption = some ⟨0 :: 0xfd :: List.replicate 12 0, 14⟩ ∧
    (Frame.setPayloadLength fresh 126).toOption = some ⟨0 :: 0xfe :: 0 :: 126 :: List.replicate 10 0, 14⟩ ∧
    (Frame.setPayloadLength fresh 65535).toOption = some ⟨0 :: 0xfe :: 0xff :: 0xff :: List.replicate 10 0, 14⟩ ∧
    (Frame.setPayloadLength fresh 65536).toOption = some ⟨0 :: 0xff :: 0 :: 0 :: 0 :: 0 :: 0 :: 1 :: 0 :: 0 :: List.replicate 4 0, 14⟩ := by
  decide +kernel

end Sonic.Props.C16
