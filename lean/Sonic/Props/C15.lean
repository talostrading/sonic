/-
C15 — WebSocket protocol violations are reported, never delivered as data.

Same model and monitor as C08. `C15_refines` is the statement over all histories (every single-violation mutation of
every conforming session at every position is one of the quantified sequences, for the blocking and the asynchronous
APIs); the other theorems state the clauses outright for every model state that meets their hypotheses.
Segmentation of the byte stream is the subject of C07 (the frame decoder); here a frame is one event.
-/
import Sonic.Props.C08
import Sonic.Props.WsFrameTie

namespace Sonic.Props.C15
open Sonic.Spec.WsStream Sonic.Model.WsStream Sonic.Lemmas.WsOut Sonic.Lemmas.WsRefine Sonic.Lemmas.WsFacts
open Sonic.Props.C08 (OpsOk)

/-- **All histories.** For every maximum, every sequence of peer frames (conforming or not), transport events and local
calls, the monitor accepts the model's trace. Its clauses for C15: a frame that violates the framing rules makes the
read return a protocol error (`retOk (.violation _)`), the message API has copied nothing of it (`data = before`),
nothing is written outside the caller's buffer, a Close(1002) is owed unless the client's Close is already out, the
stage is `closing` so later writes must be refused; a continuation with nothing to continue / a new data frame inside a
fragmented message makes the message API return the corresponding error; a frame over the maximum, a message over the
maximum or over the caller's buffer is an error; no call panics. -/
theorem C15_refines (max : Nat) (ops : List Op) (h : OpsOk ops) :
    accepts (init max) (run (new max) ops) = true := Sonic.Props.C08.C08_refines max ops h

theorem C15_no_panic (max : Nat) (ops : List Op) (h : OpsOk ops) :
    ∀ x ∈ run (new max) ops, x.2 ≠ Obs.panic := Sonic.Props.C08.C08_no_panic max ops h

/-- The five classes of framing violation (for a client) are violations for the monitor, and nothing else is. -/
theorem isViolation_iff (f : InFrame) :
    isViolation f = true ↔
      f.rsv ≠ 0 ∨ f.masked = true ∨ (3 ≤ f.op ∧ f.op ≤ 7) ∨ 11 ≤ f.op ∨
      (8 ≤ f.op ∧ f.op ≤ 10 ∧ (f.fin = false ∨ f.payload.length > 125)) := by
  simp only [isViolation, reservedOp, controlOp, Bool.or_eq_true, Bool.and_eq_true, bne_iff_ne, ne_eq,
    decide_eq_true_eq, Bool.not_eq_true']
  constructor
  · rintro (((h | h) | (⟨h1, h2⟩ | h)) | ⟨h1, h2⟩)
    · exact Or.inl h
    · exact Or.inr (Or.inl h)
    · exact Or.inr (Or.inr (Or.inl ⟨h1, h2⟩))
    · exact Or.inr (Or.inr (Or.inr (Or.inl h)))
    · by_cases h11 : 11 ≤ f.op
      · exact Or.inr (Or.inr (Or.inr (Or.inl h11)))
      · exact Or.inr (Or.inr (Or.inr (Or.inr ⟨h1, by omega, h2⟩)))
  · rintro (h | h | ⟨h1, h2⟩ | h | ⟨h1, _, h3⟩)
    · exact Or.inl (Or.inl (Or.inl h))
    · exact Or.inl (Or.inl (Or.inr h))
    · exact Or.inl (Or.inr (Or.inl ⟨h1, h2⟩))
    · exact Or.inl (Or.inr (Or.inr h))
    · exact Or.inr ⟨h1, h3⟩

/-- **A framing violation is an error from every read API.** From every state in which the client may read, if the
next frame violates the framing rules (and is within the maximum, otherwise `C15_too_big` applies): NextFrame and
AsyncNextFrame return a protocol error; NextMessage and AsyncNextMessage return the same error with the assembly state
untouched (no byte of the frame is copied, `n` does not move); the state becomes `closedByUs`; a Close frame with status
1002 is queued if and only if the client was still `active` (never a second Close); afterwards Write, WriteFrame and
Close are refused. -/
theorem C15_frame_violation_is_error (m : M) (async : Bool) (f : InFrame) (rest : List InFrame)
    (hq : m.inq = f :: rest) (hr : canRead m = true) (hv : isViolation f = true) (hmax : f.payload.length ≤ m.max) :
    ∃ e m', e.isProto = true ∧ e ≠ .nil ∧
      nextFrame async m = some (m', e, some f) ∧
      (∀ buf fuel a, nextMessage async buf (fuel + 1) m a = some (m', e, a)) ∧
      m'.state = .closedByUs ∧ m'.inq = rest ∧
      out m' = out m ++ (if m.state = .active
        then [{ fin := true, op := 8, masked := true, payload := u16 1002 }] else []) ∧
      (∀ ty p, (write m' ty p).2 ≠ .nil ∧ (write m' ty p).1 = m') ∧
      (∀ fin op p, writeFrame m' fin op p = (m', .cancelled)) ∧
      (∀ code reason, close m' code reason = (m', .cancelled)) := by
  obtain ⟨e, hp, hnf⟩ := nextFrame_violation async hr hq hv hmax
  have hne : e ≠ .nil := fun hx => by rw [hx] at hp; cases hp
  have hst : (violated (deq (flush m) rest)).state = .closedByUs := rfl
  have hl := (Sonic.Props.C08.C08_local_close (violated (deq (flush m) rest))).2 hst
  refine ⟨e, _, hp, hne, hnf, fun buf fuel a => nextMessage_stop hnf hne, hst, (violated_keeps _).2.2, ?_,
    hl.1, hl.2.1, hl.2.2.1⟩
  rcases canRead_cases hr with ha | hc
  · rw [if_pos ha, violated_active (m := deq (flush m) rest) ha]
    rfl
  · rw [if_neg (by rw [hc]; nofun), violated_closing (m := deq (flush m) rest) hc, List.append_nil]
    exact out_flush m

/-- **Fragmentation rules (message API).** With a conforming data frame next that fits the caller's buffer and the
maximum: if no message is in progress and the frame is a continuation, NextMessage/AsyncNextMessage return
`ErrUnexpectedContinuation`; if a fragmented message is in progress and the frame is not a continuation, they return
`ErrExpectedContinuation`. Neither is reported as a message (the error is not nil). -/
theorem C15_fragmentation (m : M) (async : Bool) (buf fuel : Nat) (a : Asm) (f : InFrame) (rest : List InFrame)
    (hq : m.inq = f :: rest) (hr : canRead m = true) (hconf : isViolation f = false)
    (hdata : f.op = 0 ∨ f.op = 1 ∨ f.op = 2)
    (hfit : a.n + f.payload.length ≤ buf ∧ a.n + f.payload.length ≤ m.max) :
    (a.cont = false → f.op = 0 → ∃ m' a', nextMessage async buf (fuel + 1) m a = some (m', .unexpCont, a')) ∧
    (a.cont = true → f.op ≠ 0 → ∃ m' a', nextMessage async buf (fuel + 1) m a = some (m', .expCont, a')) := by
  have hnf := nextFrame_conform async hr hq hconf (Nat.le_trans (Nat.le_add_left ..) hfit.2)
  have hd := nextMessage_data (buf := buf) (fuel := fuel) (a := a) hnf (notControl_of f.op hdata).1 hfit.1
    (by rw [(conform_keeps _ f).1]; exact hfit.2)
  constructor
  · intro hcont h0
    have he : fragErr a.cont f.op = .unexpCont := by unfold fragErr; rw [hcont, h0]; rfl
    rw [hd, he]
    exact ⟨_, _, if_pos (.inl nofun)⟩
  · intro hcont h0
    have he : fragErr a.cont f.op = .expCont := by unfold fragErr; rw [hcont, if_pos h0]; rfl
    rw [hd, he]
    exact ⟨_, _, if_pos (.inl nofun)⟩

/-- A whole call: a fresh NextMessage whose first data frame is a continuation reports `ErrUnexpectedContinuation`. -/
theorem C15_unexpected_continuation (m : M) (async : Bool) (buf fuel : Nat) (f : InFrame) (rest : List InFrame)
    (hq : m.inq = f :: rest) (hr : canRead m = true) (hconf : isViolation f = false) (h0 : f.op = 0)
    (hfit : f.payload.length ≤ buf ∧ f.payload.length ≤ m.max) :
    ∃ m' a', nextMessage async buf (fuel + 1) m {} = some (m', .unexpCont, a') :=
  (C15_fragmentation m async buf fuel {} f rest hq hr hconf (Or.inl h0)
    (by simpa using hfit)).1 rfl h0

/-- A whole call: a fresh NextMessage that reads the first fragment of a message and then a new text/binary frame
reports `ErrExpectedContinuation`. -/
theorem C15_expected_continuation (m : M) (async : Bool) (buf fuel : Nat) (f1 f2 : InFrame) (rest : List InFrame)
    (hq : m.inq = f1 :: f2 :: rest) (hr : canRead m = true)
    (hc1 : isViolation f1 = false) (hc2 : isViolation f2 = false)
    (h1 : (f1.op = 1 ∨ f1.op = 2) ∧ f1.fin = false) (h2 : f2.op = 1 ∨ f2.op = 2)
    (hfit : f1.payload.length + f2.payload.length ≤ buf ∧ f1.payload.length + f2.payload.length ≤ m.max) :
    ∃ m' a', nextMessage async buf (fuel + 2) m {} = some (m', .expCont, a') := by
  have hnf := nextFrame_conform async hr hq hc1 (Nat.le_trans (Nat.le_add_right ..) hfit.2)
  rw [conform_data _ (.inr h1.1)] at hnf
  have hd := nextMessage_data (buf := buf) (fuel := fuel + 1) (a := {}) hnf (notControl_of f1.op (.inr h1.1)).1
    (show 0 + _ ≤ buf by rw [Nat.zero_add]; exact Nat.le_trans (Nat.le_add_right ..) hfit.1)
    (show 0 + _ ≤ m.max by rw [Nat.zero_add]; exact Nat.le_trans (Nat.le_add_right ..) hfit.2)
  have h0 : f1.op ≠ 0 := by omega
  have he : fragErr ({} : Asm).cont f1.op = .nil := by unfold fragErr; rw [if_neg h0]; rfl
  rw [hd, he, h1.2, if_neg (by decide)]
  exact (C15_fragmentation (deq (flush m) (f2 :: rest)) async buf fuel _ f2 rest rfl hr hc2 (.inr h2)
    (show 0 + _ + _ ≤ buf ∧ 0 + _ + _ ≤ m.max by rw [Nat.zero_add]; exact hfit)).2 rfl (by omega)

/-- **Size limits.** (1) A frame whose payload is larger than the configured maximum is refused by every read API with
`ErrPayloadOverMaxSize` before anything is buffered or delivered; state and queue are untouched (the stream cannot go
past it). (2) A conforming data frame that would make the message larger than the caller's buffer or than the
maximum makes NextMessage/AsyncNextMessage return `ErrMessageTooBig`. (3) `Write` of a message over the maximum is
refused with `ErrMessageTooBig` and nothing is queued. -/
theorem C15_too_big (m : M) (async : Bool) (f : InFrame) (rest : List InFrame) (hq : m.inq = f :: rest)
    (hr : canRead m = true) :
    (f.payload.length > m.max →
      nextFrame async m = some (flush m, .overMax, none) ∧
      (∀ buf fuel a, nextMessage async buf (fuel + 1) m a = some (flush m, .overMax, a)) ∧
      (flush m).inq = m.inq ∧ (flush m).state = m.state ∧ out (flush m) = out m) ∧
    (f.payload.length ≤ m.max → isViolation f = false → (f.op = 0 ∨ f.op = 1 ∨ f.op = 2) →
      ∀ buf fuel a, a.n ≤ buf → (a.n + f.payload.length > buf ∨ a.n + f.payload.length > m.max) →
        ∃ m' a', nextMessage async buf (fuel + 1) m a = some (m', .tooBig, a')) ∧
    (∀ ty p, p.length > m.max → write m ty p = (m, .tooBig)) := by
  refine ⟨fun hbig => ?_, ?_, fun ty p hp => write_tooBig m ty hp⟩
  · have hnf := nextFrame_over async hr hq hbig
    exact ⟨hnf, fun buf fuel a => nextMessage_stop hnf nofun, rfl, rfl, out_flush m⟩
  · intro hmax hconf hdata buf fuel a hn hbig
    have hnf := nextFrame_conform async hr hq hconf hmax
    obtain ⟨a', h⟩ := nextMessage_tooBig (fuel := fuel) hnf (notControl_of f.op hdata).1 hn
      (by rw [(conform_keeps _ f).1]; exact hbig)
    exact ⟨_, a', h⟩

/-! ## Non-vacuity -/

/-- One violation of each class injected into a session, through the four read APIs; fragmentation errors; size limits. -/
def demo : List Op :=
  [.peer { fin := false, rsv := 0, op := 1, masked := false, payload := [104] },
   .peer { fin := true, rsv := 0, op := 9, masked := false, payload := [] },
   .peer { fin := true, rsv := 0, op := 2, masked := false, payload := [1] },
   .nextMsg false 8,                      -- ErrExpectedContinuation
   .peer { fin := true, rsv := 0, op := 0, masked := false, payload := [2] },
   .nextMsg true 8,                       -- ErrUnexpectedContinuation
   .peer { fin := false, rsv := 0, op := 10, masked := false, payload := [] },
   .nextMsg true 8,                       -- fragmented control frame: protocol error, Close(1002) queued
   .write false 1 [97],                   -- refused
   .peer { fin := true, rsv := 2, op := 1, masked := false, payload := [] },
   .nextFrame false,                      -- second violation: no second Close
   .flush true]

example : OpsOk demo := by decide
example : accepts (init 16) (run (new 16) demo) = true := by decide +kernel
example : (run (new 16) demo).map (fun x => match x.2 with
      | .ok (.msg e _ _ _ _ _) _ => some e | .ok (.frame e _) _ => some e | .ok (.call e) _ => some e | _ => none) =
    [none, none, none, some .expCont, none, some .unexpCont, none, some (.proto .ctlFin), some .cancelled, none,
     some (.proto .rsv), some .nil] := by decide +kernel
example : out (final (new 16) demo) =
    [pong [], { fin := true, op := 8, masked := true, payload := u16 1002 }] := by decide +kernel

/-- The monitor rejects a violating frame delivered as data, a violation after which no Close(1002) is queued, and a
fragmentation error passed off as a message. -/
example : accepts (init 16)
    [(.peer { fin := true, rsv := 4, op := 1, masked := false, payload := [9] }, .ok .none ⟨.active, 0, []⟩),
     (.nextFrame false, .ok (.frame .nil (some { fin := true, rsv := 4, op := 1, masked := false, payload := [9] }))
        ⟨.active, 0, []⟩)] = false := by decide
example : accepts (init 16)
    [(.peer { fin := true, rsv := 0, op := 3, masked := false, payload := [] }, .ok .none ⟨.active, 0, []⟩),
     (.nextFrame true, .ok (.frame (.proto .opcode) none) ⟨.closedByUs, 0, []⟩)] = false := by decide
example : accepts (init 16)
    [(.peer { fin := true, rsv := 0, op := 0, masked := false, payload := [9] }, .ok .none ⟨.active, 0, []⟩),
     (.nextMsg false 8, .ok (.msg .nil 0 1 [9] true []) ⟨.active, 0, []⟩)] = false := by decide

end Sonic.Props.C15
