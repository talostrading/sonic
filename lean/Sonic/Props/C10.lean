/-
C10 — BipBuffer is a FIFO of contiguous chunks whose claims never overlap queued data.

Theorems are stated about `Sonic.Gen.BipBuffer`, the definitions regenerated from bip_buffer.go on
every run, and about the abstract monitor `Sonic.Spec.Bip` (a queue of byte cells).
-/
import Sonic.Lemmas.BipFacts

namespace Sonic.Props.C10
open Sonic.Gen.BipBuffer Sonic.Spec.Bip Sonic.Model.Bip

def R (b : BipBuffer) (s : S) : Prop :=
  Inv b ∧ s.size = b.size ∧ s.q = cells b.head (b.tail - b.head) ++ cells 0 b.wrappedTail ∧
  s.cLen = b.claimTail - b.claimHead ∧ (0 < s.cLen → s.cLo = b.claimHead)

/-- Arguments are non-negative Go `int`s (what C10 quantifies over). -/
def OpOk : Op → Prop
  | .claim n | .commit n | .consume n => 0 ≤ n ∧ n ≤ Go.I64MAX
  | _ => True

theorem q_nil_iff {b : BipBuffer} (hi : Inv b) :
    cells b.head (b.tail - b.head) ++ cells 0 b.wrappedTail = [] ↔ b.head = b.tail := by
  unfold Inv at hi
  constructor
  · intro h
    have := congrArg List.length h
    simp at this; lia
  · intro h
    have h1 : b.wrappedTail = 0 := by lia
    rw [cells_nonpos (by lia), cells_nonpos (by lia)]; rfl

theorem runLen_q {b : BipBuffer} (hi : Inv b) :
    (runLen (cells b.head (b.tail - b.head) ++ cells 0 b.wrappedTail) : Int) = b.tail - b.head := by
  have hi0 := hi
  unfold Inv at hi0
  by_cases hht : b.head = b.tail
  · rw [(q_nil_iff hi).2 hht]; simp [runLen]; lia
  · have hlt : 0 < b.tail - b.head := by lia
    rw [runLen_cells_append hlt]
    · lia
    · rw [show b.head + (b.tail - b.head) = b.tail by lia]
      by_cases hw : 0 < b.wrappedTail
      · rw [cells_succ hw]; simp; lia
      · rw [cells_nonpos (by lia)]; simp

theorem step_claim (b : BipBuffer) (s : S) (n : Int) (hR : R b s) (hn : 0 ≤ n) :
    ∃ s', Spec.Bip.step s (.claim n) (Model.Bip.step b (.claim n)).2 = some s' ∧
          R (Model.Bip.step b (.claim n)).1 s' := by
  obtain ⟨hi, hsz, hq, hcl, hclo⟩ := hR
  obtain ⟨lo, free, hf, e⟩ := Claim_eq hi hn
  have hsize := hi.1
  have hwhole : s.q = [] → free = s.size := fun h => hsz ▸ hf.whole ((q_nil_iff hi).1 (hq ▸ h))
  -- what the monitor is told when nothing is granted
  have hnone : (n = 0 ∨ free = 0) → ClaimOk s n 0 0 := fun h0 =>
    ⟨Int.le_refl 0, hn, Or.inl rfl, fun c _ => by lia, fun h => by
      have := hwhole h
      rw [imin_eq]; split <;> lia⟩
  dsimp only [Model.Bip.step]
  rw [e]
  unfold claimAt
  split
  · rename_i h0
    refine ⟨_, if_pos (hnone (Or.inr h0)), hi, hsz, hq, ?_, fun h => absurd h (Int.lt_irrefl 0)⟩
    show (0 : Int) = b.claimTail - b.claimHead
    have := hf.noClaim h0
    lia
  · generalize hk : imin free n = k
    have hk' := imin_cases free n
    rw [hk] at hk'
    have hf1 := hf.free_nonneg
    have hf2 := hf.inside
    have hi' : Inv { b with claimHead := lo, claimTail := lo + k } :=
      hi.withClaim hf.lo_nonneg (by lia) (by lia) (fun _ h => by have := hf.claimable h; lia)
    dsimp only
    rw [obsView_span]
    split
    · refine ⟨_, if_pos (hnone (Or.inl (by lia))), hi', hsz, hq, ?_, fun h => absurd h (Int.lt_irrefl 0)⟩
      show (0 : Int) = lo + k - lo
      lia
    · have hcond : ClaimOk s n lo k := by
        refine ⟨by lia, by lia, Or.inr ⟨hf.lo_nonneg, by lia⟩, fun c hc => ?_, fun h => ?_⟩
        · rw [hq, List.mem_append, mem_cells, mem_cells] at hc
          have := hf.noData
          lia
        · have := hwhole h
          rw [imin_eq]; split <;> lia
      refine ⟨_, if_pos hcond, hi', hsz, hq, ?_, fun _ => rfl⟩
      show k = lo + k - lo
      lia

theorem step_commit (b : BipBuffer) (s : S) (n : Int) (hR : R b s) (hn : 0 ≤ n) :
    ∃ s', Spec.Bip.step s (.commit n) (Model.Bip.step b (.commit n)).2 = some s' ∧
          R (Model.Bip.step b (.commit n)).1 s' := by
  obtain ⟨hi, hsz, hq, hcl, hclo⟩ := hR
  obtain ⟨h1, h2, h3, h4, h5, h6, h7, h8, h9, h10⟩ := hi.bounds
  dsimp only [Model.Bip.step]
  rw [Commit_eq hi hn, ← hcl]
  generalize hkk : imin n s.cLen = k
  -- of `k = min n cLen` the cases below need only these bounds, so the disjunction of `imin_cases` stays out of them
  obtain ⟨hk0, hkc⟩ : 0 ≤ k ∧ k ≤ b.claimTail - b.claimHead := by
    have := imin_cases n s.cLen
    lia
  -- the monitor's answer, once the cells the model added are known to be the committed ones
  let s' : S := { s with q := s.q ++ cells s.cLo k, cLo := 0, cLen := 0 }
  have hstep : ∀ lo ob, (k = 0 ∨ lo = s.cLo) → ob = (if k ≤ 0 then Obs.view 0 0 else .view lo k) →
      Spec.Bip.step s (.commit n) ob = some s' := fun lo ob hlo hob => by
    rw [hob]
    split
    · exact (if_pos (show CommitOk s n 0 0 from ⟨by lia, Or.inl (by lia)⟩)).trans (by rw [hkk])
    · exact (if_pos (show CommitOk s n lo k from ⟨hkk.symm, by lia⟩)).trans (by rw [hkk])
  have hnc : ¬ (0 : Int) < 0 := Int.lt_irrefl 0
  by_cases h0 : k = 0
  · rw [commitAt, if_pos h0]
    refine ⟨s', hstep 0 _ (Or.inl h0) (by rw [if_pos (by lia)]; rfl),
      hi.withClaim (Int.le_refl 0) (Int.le_refl 0) hi.1 (fun h => absurd h hnc), hsz, ?_, rfl, fun h => absurd h hnc⟩
    show s.q ++ cells s.cLo k = _
    rw [h0, cells_nonpos (Int.le_refl 0), List.append_nil]
    exact hq
  · have hlo : s.cLo = b.claimHead := hclo (by lia)
    by_cases hht : b.head = b.tail
    · rw [commitAt, if_neg h0, if_pos hht]
      have hwt : b.wrappedTail = 0 := by
        have := hi.wrapped
        lia
      refine ⟨s', hstep _ _ (Or.inr hlo.symm) (obsView_span ..), hi.ofData (by lia), hsz, ?_, rfl,
        fun h => absurd h hnc⟩
      show s.q ++ cells s.cLo k = cells b.claimHead (b.claimHead + k - b.claimHead) ++ cells 0 b.wrappedTail
      rw [hq, (q_nil_iff hi).2 hht, hlo, show b.claimHead + k - b.claimHead = k by lia, hwt,
        cells_nonpos (Int.le_refl 0), List.append_nil, List.nil_append]
    · -- a claim next to data lies behind the data or behind the wrapped data
      rcases hi.claim (by lia) (by lia) with ⟨hct, hwt⟩ | ⟨hcw, hch⟩
      · rw [commitAt, if_neg h0, if_neg hht, if_pos hct]
        refine ⟨s', hstep _ _ (Or.inr (hct ▸ hlo.symm)) (obsView_span ..), hi.ofData (by lia), hsz, ?_, rfl,
          fun h => absurd h hnc⟩
        show s.q ++ cells s.cLo k = cells b.head (b.tail + k - b.head) ++ cells 0 b.wrappedTail
        rw [hq, hlo, hct, hwt, cells_nonpos (Int.le_refl 0), List.append_nil, List.append_nil,
          show b.tail + k - b.head = b.tail - b.head + k by lia, ← cells_append (by lia) (by lia),
          show b.head + (b.tail - b.head) = b.tail by lia]
      · rw [commitAt, if_neg h0, if_neg hht, if_neg (by lia)]
        refine ⟨s', hstep _ _ (Or.inr (by lia)) (obsView_span ..), hi.ofData (by lia), hsz, ?_, rfl,
          fun h => absurd h hnc⟩
        show s.q ++ cells s.cLo k = cells b.head (b.tail - b.head) ++ cells 0 (b.wrappedTail + k)
        rw [hq, hlo, List.append_assoc, show b.claimHead = 0 + b.wrappedTail by lia,
          cells_append h6 (by lia)]

theorem step_head (b : BipBuffer) (s : S) (hR : R b s) :
    ∃ s', Spec.Bip.step s .head (Model.Bip.step b .head).2 = some s' ∧ R (Model.Bip.step b .head).1 s' := by
  have hR0 := hR
  obtain ⟨hi, hsz, hq, hcl, hclo⟩ := hR
  have hrun := runLen_q hi
  dsimp only [Model.Bip.step]
  rw [Head_eq hi]
  split
  · rename_i hlt
    rw [obsView_span, if_neg (by lia)]
    have hcond : HeadOk s b.head (b.tail - b.head) :=
      ⟨by rw [hq, hrun], Or.inr (by rw [hq, head?_cells (by lia)])⟩
    exact ⟨_, if_pos hcond, hR0⟩
  · have hcond : HeadOk s 0 0 := ⟨by rw [hq, hrun]; lia, Or.inl rfl⟩
    exact ⟨_, if_pos hcond, hR0⟩

theorem step_consume (b : BipBuffer) (s : S) (n : Int) (hR : R b s) (hn : 0 ≤ n) :
    ∃ s', Spec.Bip.step s (.consume n) (Model.Bip.step b (.consume n)).2 = some s' ∧
          R (Model.Bip.step b (.consume n)).1 s' := by
  obtain ⟨hi, hsz, hq, hcl, hclo⟩ := hR
  have hi0 := hi
  unfold Inv at hi0
  have hrun := runLen_q hi
  dsimp only [Model.Bip.step, Spec.Bip.step]
  rw [Consume_eq hi hn]
  refine ⟨_, rfl, ?_⟩
  rw [hq, imin_eq, hrun]
  by_cases hP : b.tail - b.head ≤ n
  · rw [if_pos hP]
    refine ⟨by unfold Inv; dsimp only; lia, hsz, ?_, hcl, hclo⟩
    show List.drop _ _ = cells 0 (b.wrappedTail - 0) ++ cells 0 0
    have : (if n ≤ b.tail - b.head then n else b.tail - b.head) = b.tail - b.head := by split <;> lia
    rw [this, List.drop_append_of_le_length (by simp), Int.sub_zero, cells_nonpos (Int.le_refl 0), List.append_nil,
      drop_cells (by lia) (Int.le_refl _), cells_nonpos (by lia)]
    rfl
  · rw [if_neg hP]
    refine ⟨by unfold Inv; dsimp only; omega, hsz, ?_, hcl, hclo⟩
    show List.drop _ _ = cells (b.head + n) (b.tail - (b.head + n)) ++ cells 0 b.wrappedTail
    have : (if n ≤ b.tail - b.head then n else b.tail - b.head) = n := by split <;> lia
    rw [this, List.drop_append_of_le_length (by simp; lia), drop_cells hn (by lia),
      show b.tail - b.head - n = b.tail - (b.head + n) by lia]

theorem step_committed (b : BipBuffer) (s : S) (hR : R b s) :
    ∃ s', Spec.Bip.step s .committed (Model.Bip.step b .committed).2 = some s' ∧
          R (Model.Bip.step b .committed).1 s' := by
  have hb := hR.1.bounds
  have : b.Committed = (s.q.length : Int) := by
    rw [Committed_eq hR.1, hR.2.2.1]; simp; lia
  exact ⟨_, if_pos this, hR⟩

theorem step_reset (b : BipBuffer) (s : S) (hR : R b s) :
    ∃ s', Spec.Bip.step s .reset (Model.Bip.step b .reset).2 = some s' ∧
          R (Model.Bip.step b .reset).1 s' :=
  ⟨_, rfl, inv_new b.size hR.1.1 hR.1.2.1, hR.2.1, rfl, rfl, fun h => absurd h (Int.lt_irrefl 0)⟩

theorem step_refines (b : BipBuffer) (s : S) (op : Op) (hR : R b s) (hop : OpOk op) :
    ∃ s', Spec.Bip.step s op (Model.Bip.step b op).2 = some s' ∧ R (Model.Bip.step b op).1 s' := by
  cases op with
  | claim n => exact step_claim b s n hR hop.1
  | commit n => exact step_commit b s n hR hop.1
  | head => exact step_head b s hR
  | consume n => exact step_consume b s n hR hop.1
  | committed => exact step_committed b s hR
  | reset => exact step_reset b s hR

theorem R_new (size : Int) (h0 : 0 ≤ size) (h1 : size ≤ Go.I64MAX) : R (Model.Bip.new size) (Spec.Bip.init size) :=
  ⟨inv_new size h0 h1, rfl, by simp [Model.Bip.new, Spec.Bip.init, cells_nonpos], rfl, fun h => absurd h (Int.lt_irrefl 0)⟩

theorem run_accepted (b : BipBuffer) (s : S) (ops : List Op) (hR : R b s) (hops : ∀ op ∈ ops, OpOk op) :
    accepts s (run b ops) = true ∧ ∃ s', R (ops.foldl (fun b op => (Model.Bip.step b op).1) b) s' := by
  induction ops generalizing b s with
  | nil => exact ⟨rfl, s, hR⟩
  | cons op r ih =>
    obtain ⟨s', h1, h2⟩ := step_refines b s op hR (hops op (List.mem_cons_self ..))
    simp only [run, accepts, h1]
    exact ih _ _ h2 (fun o ho => hops o (List.mem_cons_of_mem _ ho))

/-- **C10 (main theorem).** For every buffer size and every sequence of
Claim/Commit/Head/Consume/Committed/Reset calls with non-negative arguments, everything the
implementation (as translated from bip_buffer.go) returns is accepted by the byte-queue monitor:
claims never overlap queued cells, an empty buffer grants `min n size`, commits append exactly the
claimed prefix as one chunk, `Head` is the maximal contiguous run at the front, `Consume` frees the
oldest cells and `Committed` is the queue length. -/
theorem C10_fifo_of_contiguous_chunks (size : Int) (h0 : 0 ≤ size) (h1 : size ≤ Go.I64MAX)
    (ops : List Op) (hops : ∀ op ∈ ops, OpOk op) :
    accepts (Spec.Bip.init size) (run (Model.Bip.new size) ops) = true :=
  (run_accepted _ _ ops (R_new size h0 h1) hops).1

/-- Claims never overlap queued data, stated outright on the model: for a reachable state the
cells of a non-empty claim are disjoint from both committed regions. -/
theorem C10_claim_disjoint (b : BipBuffer) (n : Int) (hi : Inv b) (hn : 0 ≤ n) (hn' : n ≤ Go.I64MAX)
    (c : Int) (hc : (b.Claim n).2.lo ≤ c ∧ c < (b.Claim n).2.hi) :
    ¬ (b.head ≤ c ∧ c < b.tail) ∧ ¬ (0 ≤ c ∧ c < b.wrappedTail) := by
  obtain ⟨lo, free, hf, e⟩ := Claim_eq hi hn
  rw [e] at hc
  unfold claimAt at hc
  split at hc
  · exact absurd hc (by show ¬ ((0 : Int) ≤ c ∧ c < 0); lia)
  · have := imin_cases free n
    have := hf.noData
    have : lo ≤ c ∧ c < lo + imin free n := hc
    lia

/-- An empty buffer always grants a claim of `min n size`. -/
theorem C10_empty_grants_full (b : BipBuffer) (n : Int) (hi : Inv b) (hn : 0 ≤ n) (hn' : n ≤ Go.I64MAX)
    (he : b.Committed = 0) : (b.Claim n).2.hi - (b.Claim n).2.lo = imin n b.size := by
  obtain ⟨lo, free, hf, e⟩ := Claim_eq hi hn
  rw [Committed_eq hi] at he
  have hb := hi.bounds
  have := hf.whole (by lia)
  have := imin_cases free n
  have := imin_cases n b.size
  rw [e]
  unfold claimAt
  split
  · show (0 : Int) - 0 = _; lia
  · show lo + imin free n - lo = _; lia

/-- The invariant holds in every reachable state. -/
theorem C10_inv_reachable (size : Int) (h0 : 0 ≤ size) (h1 : size ≤ Go.I64MAX)
    (ops : List Op) (hops : ∀ op ∈ ops, OpOk op) :
    Inv (ops.foldl (fun b op => (Model.Bip.step b op).1) (Model.Bip.new size)) :=
  let ⟨_, hR⟩ := (run_accepted _ _ ops (R_new size h0 h1) hops).2
  hR.1

/-! Non-vacuity: concrete non-trivial reachable states meet the hypotheses, and the monitor does
reject wrong behaviour (so acceptance is not trivial). -/

example : Inv { size := 8, head := 4, tail := 8, wrappedHead := 0, wrappedTail := 2, claimHead := 2, claimTail := 4 } := by
  unfold Inv; simp [Go.I64MAX]

example : accepts (Spec.Bip.init 8)
    (run (Model.Bip.new 8) [.claim 6, .commit 6, .consume 4, .claim 4, .commit 3, .head, .committed, .consume 2, .head]) = true := by
  decide

-- the monitor rejects a claim overlapping queued data, and a short grant on an empty buffer
example : Spec.Bip.step { size := 8, q := [0, 1, 2], cLo := 0, cLen := 0 } (.claim 4) (.view 2 4) = none := by decide
example : Spec.Bip.step (Spec.Bip.init 8) (.claim 8) (.view 4 4) = none := by decide

end Sonic.Props.C10
