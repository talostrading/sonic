/-
C06 — WebSocket message delivery fidelity under fragmentation / segmentation.

Model: `Sonic.Model.WsMsg` — the read path of `websocket.Stream` from transport bytes to delivered messages: the
byte-level decoder model of C07 (`FrameCodec.Decode` over the ByteBuffer), the `CodecConn.ReadNext/AsyncReadNext` loop,
`handleFrame` of the C08 stream model, and `NextFrame/AsyncNextFrame/NextMessage/asyncNextMessage` on top.
Spec: `Sonic.Spec.WsMessages` — sessions of a conforming peer at message level, their byte stream `wire`, and the
monitor over what the reader observes.

All theorems quantify over EVERY session that meets `InScope` (any number of text/binary messages, any fragmentation
into ≥ 1 fragments including empty ones, any Ping/Pong placement in front of any fragment and after the last message,
payloads up to the configured maximum and the caller's buffer), EVERY segmentation of its byte stream into transport
reads (`segs.flatten = wire s`: every split point, inside headers and length fields too, empty reads allowed), EVERY
capacity the Go runtime may give the read buffer (`rooms`; an inadmissible answer is the outcome `.error (.buf .env)`),
and both the blocking and the asynchronous variant.  Hypothesis `InitOk`: `2·max + 14 ≤ MaxInt64` and an initial buffer
capacity between 14 and `MaxInt64` (C07's hypothesis; `NewWebsocketStream` reserves 4096).
-/
import Sonic.Lemmas.WsMsgSession

namespace Sonic.Props.C06
open Sonic.Model.WsBuf Sonic.Model.WsMsg Sonic.Spec.WsMessages Sonic.Lemmas.WsMsg
open Sonic.Spec.WsFrame (Frame encode)
open Sonic.Spec.WsStream (Err InFrame)

def InitOk (max : Nat) (cap : Int) : Prop := 2 * (max : Int) + 14 ≤ Go.I64MAX ∧ 14 ≤ cap ∧ cap ≤ Go.I64MAX
instance (max : Nat) (cap : Int) : Decidable (InitOk max cap) := by unfold InitOk; exact inferInstance

theorem init_sinv {max : Nat} {cap : Int} (h : InitOk max cap) (chunks : List (List UInt8)) (rooms : List Int) :
    SInv (W.init max cap chunks rooms) ∧ (W.init max cap chunks rooms).m.max = max ∧
      rem (W.init max cap chunks rooms) = chunks.flatten := by
  obtain ⟨h1, h2, h3⟩ := h
  refine ⟨⟨⟨⟨rfl, Int.le_refl _, Int.le_refl _, ?_, h3, rfl⟩, h2, h1, fun hr => by cases hr⟩, rfl, rfl⟩, rfl, rfl⟩
  exact Int.le_trans (show (0 : Int) ≤ 14 by decide) h2

/-- One reader of the harness: a fresh stream (maximum `max`, read buffer of capacity `cap`) over a transport that
holds the segments `segs`; the API is called until it reports an error (at most `k` times). -/
def reader (api : Api) (async : Bool) (max buf : Nat) (cap : Int) (segs : List (List UInt8)) (rooms : List Int) (k : Nat) :
    X Obs :=
  (observe api async buf k (W.init max cap segs rooms)).map (·.1)

/-- What the message API must report for a session: every message once, in order, with its type, its payload, the
payload's length, and the control frames sent with it; then "no more data" (with the trailing control frames). -/
def expectMsgs (s : Session) : List MsgOut :=
  s.msgs.map (fun m => { err := .nil, ty := m.ty, n := m.payload.length, data := m.payload, clean := true, ctl := ctlSeen m.ctls })
    ++ [{ err := .nodata, ty := 255, n := 0, data := [], clean := true, ctl := ctlSeen s.tail }]

/-- What the frame API must report: every frame once, in order; then "no more data". -/
def expectFrames (s : Session) : List FrameOut :=
  s.frames.map (fun f => { err := .nil, f := some (inFrameOf f) }) ++ [{ err := .nodata, f := none }]

theorem expectMsgs_ok : ∀ (msgs : List Sent) (tail : List Ctl), msgsOk msgs tail (expectMsgs { msgs := msgs, tail := tail }) = true
  | [], tail => by simp [expectMsgs, msgsOk]
  | m :: ms, tail => by
    have := expectMsgs_ok ms tail
    simp only [expectMsgs, List.map_cons, List.cons_append, msgsOk, msgOk] at this ⊢
    simp [this]

theorem framesOk_expect : ∀ (fs : List Frame),
    framesOk fs (fs.map (fun f => ({ err := .nil, f := some (inFrameOf f) } : FrameOut)) ++ [{ err := .nodata, f := none }]) = true
  | [] => by simp [framesOk]
  | f :: fs => by
    have := framesOk_expect fs
    simp only [List.map_cons, List.cons_append, framesOk]
    simp [this]

theorem map_delivered (s : Session) : (delivered s).map msgOutOf = expectMsgs s := by
  unfold delivered expectMsgs
  simp [msgOutOf, asmOf, asmEnd, Function.comp_def]

/-- **Delivery through the message API.**  For every in-scope session, every segmentation of its byte stream and every
runtime answer, `NextMessage` (async = false) and `AsyncNextMessage` (async = true), called until they report an error,
deliver exactly the messages: each once, in order, with the same type, a byte-identical payload and `n` = payload
length, the control callback having received exactly the control frames sent with each message; then the transport has
nothing more.  (The only other outcome is an inadmissible capacity answer of the environment.) -/
theorem C06_delivery (max buf : Nat) (cap : Int) (hinit : InitOk max cap) (s : Session) (hs : InScope max buf s)
    (segs : List (List UInt8)) (hseg : segs.flatten = wire s) (rooms : List Int) (async : Bool) (k : Nat)
    (hk : s.msgs.length + 1 ≤ k) :
    reader .msg async max buf cap segs rooms k = .error (.buf .env) ∨
    reader .msg async max buf cap segs rooms k = .ok (.msgs (expectMsgs s)) := by
  obtain ⟨hS, hmx, hrem⟩ := init_sinv hinit segs rooms
  obtain ⟨msgs, tail⟩ := s
  rcases runMsgs_session async buf msgs tail k _ hS (by rw [hmx]; exact hs) (by rw [hrem]; exact hseg) hk with he | ⟨w', h'⟩
  · left; unfold reader observe; rw [he]; rfl
  · right; unfold reader observe; rw [h']
    show Except.ok (Obs.msgs ((delivered { msgs := msgs, tail := tail }).map msgOutOf)) = _
    rw [map_delivered]

/-- **Delivery through the frame API.**  `NextFrame` / `AsyncNextFrame` deliver exactly the frame list of the session
(the fragments with their opcodes and FIN bits, the Ping and Pong frames), each once, in order, byte-identical payloads;
then nothing more. -/
theorem C06_frame_api (max buf : Nat) (cap : Int) (hinit : InitOk max cap) (s : Session) (hs : InScope max buf s)
    (segs : List (List UInt8)) (hseg : segs.flatten = wire s) (rooms : List Int) (async : Bool) (k : Nat)
    (hk : s.frames.length + 1 ≤ k) :
    reader .frame async max buf cap segs rooms k = .error (.buf .env) ∨
    reader .frame async max buf cap segs rooms k = .ok (.frames (expectFrames s)) := by
  obtain ⟨hS, hmx, hrem⟩ := init_sinv hinit segs rooms
  rcases runFrames_frames async s.frames k _ hS (by rw [hmx]; exact session_frames_ok hs) (by rw [hrem]; exact hseg) hk with he | ⟨w', h'⟩
  · left; unfold reader observe; rw [he]; rfl
  · right; unfold reader observe; rw [h']
    show Except.ok (Obs.frames ((s.frames.map (fun f => (Err.nil, some (inFrameOf f))) ++ [(Err.nodata, none)]).map frameOutOf)) = _
    simp [expectFrames, frameOutOf, Function.comp_def]

/-- The bound `s.frames.length + 3` on the number of calls is the one the trace checker gives its readers
(Driver/WsMsg.lean); any bound above the number of messages (frames) would do. -/
theorem reader_ok {max buf : Nat} {cap : Int} (hinit : InitOk max cap) {s : Session} (hs : InScope max buf s)
    {segs : List (List UInt8)} (hseg : segs.flatten = wire s) {rooms : List Int} {api : Api} {async : Bool} {ob : Obs}
    (hrun : reader api async max buf cap segs rooms (s.frames.length + 3) = .ok ob) :
    ob = match (generalizing := false) api with | .msg => .msgs (expectMsgs s) | .frame => .frames (expectFrames s) := by
  have hfm := msgs_le_frames hs
  cases api with
  | msg =>
    rcases C06_delivery max buf cap hinit s hs segs hseg rooms async (s.frames.length + 3) (by omega) with he | h
    · rw [he] at hrun; cases hrun
    · rw [h] at hrun; cases hrun; rfl
  | frame =>
    rcases C06_frame_api max buf cap hinit s hs segs hseg rooms async (s.frames.length + 3) (by omega) with he | h
    · rw [he] at hrun; cases hrun
    · rw [h] at hrun; cases hrun; rfl

/-- **The monitor accepts** what the model's readers observe (all four of them), for every in-scope session, every
segmentation, every arrival schedule `pre` and every runtime answer. -/
theorem C06_monitor_accepts (max buf : Nat) (cap : Int) (hinit : InitOk max cap) (s : Session) (hs : InScope max buf s)
    (segs : List (List UInt8)) (hseg : segs.flatten = wire s) (rooms : List Int) (api : Api) (async : Bool) (pre : Option Nat)
    (ob : Obs) (hrun : reader api async max buf cap segs rooms (s.frames.length + 3) = .ok ob) :
    step { max := max, buf := buf, sess := s } (.read api async pre) ob = some { max := max, buf := buf, sess := s } := by
  cases api with
  | msg =>
    cases reader_ok hinit hs hseg hrun
    simp only [step, hs, if_true]
    obtain ⟨msgs, tail⟩ := s
    rw [expectMsgs_ok]; rfl
  | frame =>
    cases reader_ok hinit hs hseg hrun
    simp only [step, hs, if_true]
    unfold expectFrames
    rw [framesOk_expect]; rfl

/-- **Blocking and asynchronous variants agree, and the segmentation does not matter**: two runs of the same API over
the same session — one blocking, one asynchronous or both alike; the byte stream cut differently; different buffer
capacities and runtime answers — observe the same sequence. -/
theorem C06_sync_async_agree (max buf : Nat) (cap₁ cap₂ : Int) (h₁ : InitOk max cap₁) (h₂ : InitOk max cap₂) (s : Session)
    (hs : InScope max buf s) (segs₁ segs₂ : List (List UInt8)) (hseg₁ : segs₁.flatten = wire s) (hseg₂ : segs₂.flatten = wire s)
    (rooms₁ rooms₂ : List Int) (api : Api) (async₁ async₂ : Bool) (ob₁ ob₂ : Obs)
    (hrun₁ : reader api async₁ max buf cap₁ segs₁ rooms₁ (s.frames.length + 3) = .ok ob₁)
    (hrun₂ : reader api async₂ max buf cap₂ segs₂ rooms₂ (s.frames.length + 3) = .ok ob₂) : ob₁ = ob₂ := by
  exact (reader_ok h₁ hs hseg₁ hrun₁).trans (reader_ok h₂ hs hseg₂ hrun₂).symm

/-- **Segmentation independence** (the special case of the previous theorem with the same API variant). -/
theorem C06_segmentation_independent (max buf : Nat) (cap : Int) (h : InitOk max cap) (s : Session) (hs : InScope max buf s)
    (segs₁ segs₂ : List (List UInt8)) (hseg₁ : segs₁.flatten = wire s) (hseg₂ : segs₂.flatten = wire s)
    (rooms₁ rooms₂ : List Int) (api : Api) (async : Bool) (ob₁ ob₂ : Obs)
    (hrun₁ : reader api async max buf cap segs₁ rooms₁ (s.frames.length + 3) = .ok ob₁)
    (hrun₂ : reader api async max buf cap segs₂ rooms₂ (s.frames.length + 3) = .ok ob₂) : ob₁ = ob₂ :=
  C06_sync_async_agree max buf cap cap h h s hs segs₁ segs₂ hseg₁ hseg₂ rooms₁ rooms₂ api async async ob₁ ob₂ hrun₁ hrun₂

/-- **Frame API and message API agree**: reassembling (RFC 6455 5.4: skip control frames, a data frame starts a message,
FIN ends it) the frames that NextFrame/AsyncNextFrame deliver for a session gives exactly the (type, payload) sequence that
NextMessage/AsyncNextMessage deliver for it — whatever the segmentations, the variants and the runtime answers of the
two runs. -/
theorem C06_frame_message_consistent (max buf : Nat) (cap₁ cap₂ : Int) (h₁ : InitOk max cap₁) (h₂ : InitOk max cap₂) (s : Session)
    (hs : InScope max buf s) (segs₁ segs₂ : List (List UInt8)) (hseg₁ : segs₁.flatten = wire s) (hseg₂ : segs₂.flatten = wire s)
    (rooms₁ rooms₂ : List Int) (async₁ async₂ : Bool) (lf : List FrameOut) (lm : List MsgOut)
    (hrun₁ : reader .frame async₁ max buf cap₁ segs₁ rooms₁ (s.frames.length + 3) = .ok (.frames lf))
    (hrun₂ : reader .msg async₂ max buf cap₂ segs₂ rooms₂ (s.frames.length + 3) = .ok (.msgs lm)) :
    assemble (lf.filterMap (·.f)) none = (lm.filter (·.err == .nil)).map (fun o => (o.ty, o.data)) := by
  cases reader_ok h₁ hs hseg₁ hrun₁
  cases reader_ok h₂ hs hseg₂ hrun₂
  have hl : (expectFrames s).filterMap (·.f) = s.frames.map inFrameOf := by
    unfold expectFrames
    simp [List.filterMap_append, List.filterMap_map, Function.comp_def]
  have hr : ((expectMsgs s).filter (·.err == .nil)).map (fun o => (o.ty, o.data)) = s.msgs.map fun m => (m.ty, m.payload) := by
    unfold expectMsgs
    simp [List.filter_append, List.filter_map, Function.comp_def]
    congr 1
    exact List.filter_eq_self.mpr (fun _ _ => rfl)
  rw [hl, hr]
  obtain ⟨msgs, tail⟩ := s
  exact assemble_session msgs tail hs

theorem flatMap_ctl_expect (s : Session) :
    (expectMsgs s).flatMap (·.ctl) = ctlSeen (s.msgs.flatMap Sent.ctls ++ s.tail) := by
  obtain ⟨msgs, tail⟩ := s
  unfold expectMsgs
  simp only [List.flatMap_append, List.flatMap_cons, List.flatMap_nil, List.append_nil, ctlSeen, List.map_append]
  congr 1
  induction msgs with
  | nil => rfl
  | cons m ms ih => simp only [List.map_cons, List.flatMap_cons, List.map_append, ih]

/-- **The control callback** is invoked once per control frame, in the order sent, with the frame's opcode and payload:
over the whole read sequence of the message API (blocking or asynchronous, any segmentation) the callback log is exactly
the list of the Ping/Pong frames of the session — those in front of and between the fragments of every message, then
those after the last message. (That each call's log holds the frames sent with *its* message is part of `C06_delivery`.) -/
theorem C06_control_callback (max buf : Nat) (cap : Int) (hinit : InitOk max cap) (s : Session) (hs : InScope max buf s)
    (segs : List (List UInt8)) (hseg : segs.flatten = wire s) (rooms : List Int) (async : Bool) (l : List MsgOut)
    (hrun : reader .msg async max buf cap segs rooms (s.frames.length + 3) = .ok (.msgs l)) :
    l.flatMap (·.ctl) = ctlSeen (s.msgs.flatMap Sent.ctls ++ s.tail) := by
  cases reader_ok hinit hs hseg hrun
  exact flatMap_ctl_expect s

/-! ## Non-vacuity -/

def okOf (r : X Obs) : Option Obs := match r with | .ok o => some o | .error _ => none

def exCtl : Ctl := { op := 9, payload := [0xaa] }

/-- "Hel" + Ping(aa) + "lo" + empty final fragment (text), then a binary message in one fragment, then a trailing Pong. -/
def exSession : Session :=
  { msgs := [{ ty := 1, parts := [([], [0x48, 0x65, 0x6c]), ([exCtl], [0x6c, 0x6f]), ([], [])] },
             { ty := 2, parts := [([], [1, 2, 3])] }],
    tail := [{ op := 10, payload := [] }] }

example : InScope 16 5 exSession := by decide
example : InitOk 16 4096 := by decide

example : wire exSession =
    [0x01, 0x03, 0x48, 0x65, 0x6c, 0x89, 0x01, 0xaa, 0x00, 0x02, 0x6c, 0x6f, 0x80, 0x00, 0x82, 0x03, 1, 2, 3, 0x8a, 0x00] := by decide +kernel

/-- A segmentation that cuts inside the first header, inside the Ping and inside the binary frame's header. -/
def exSegs : List (List UInt8) :=
  [[0x01], [0x03, 0x48, 0x65, 0x6c, 0x89, 0x01], [0xaa, 0x00, 0x02, 0x6c, 0x6f, 0x80, 0x00, 0x82], [0x03, 1, 2, 3, 0x8a, 0x00]]

example : exSegs.flatten = wire exSession := by decide +kernel

/-- The model's blocking message reader on that segmentation: both messages, then "no data". -/
example : okOf (reader .msg false 16 5 4096 exSegs [] 8) = some (.msgs (expectMsgs exSession)) := by decide +kernel

example : expectMsgs exSession =
    [{ err := .nil, ty := 1, n := 5, data := [0x48, 0x65, 0x6c, 0x6c, 0x6f], clean := true, ctl := [(9, [0xaa])] },
     { err := .nil, ty := 2, n := 3, data := [1, 2, 3], clean := true, ctl := [] },
     { err := .nodata, ty := 255, n := 0, data := [], clean := true, ctl := [(10, [])] }] := by decide +kernel

/-- The asynchronous frame reader, byte by byte. -/
example : okOf (reader .frame true 16 5 4096 ((wire exSession).map fun b => [b]) [] 10) = some (.frames (expectFrames exSession)) := by decide +kernel

/-- The monitor is not trivial: it rejects a dropped fragment, a wrong type, a wrong length, a message delivered twice,
a missing control callback, and a control frame's payload delivered as data. -/
def exS : S := { max := 16, buf := 5, sess := exSession }
def good : List MsgOut := expectMsgs exSession

example : step exS (.read .msg false none) (.msgs good) = some exS := by decide +kernel
example : step exS (.read .msg true (some 1)) (.msgs good) = some exS := by decide +kernel
example : step exS (.read .msg false none)
    (.msgs [{ err := .nil, ty := 1, n := 3, data := [0x48, 0x65, 0x6c], clean := true, ctl := [(9, [0xaa])] },
            { err := .nil, ty := 2, n := 3, data := [1, 2, 3], clean := true, ctl := [] },
            { err := .nodata, ty := 255, n := 0, data := [], clean := true, ctl := [(10, [])] }]) = none := by decide
example : step exS (.read .msg false none)
    (.msgs [{ err := .nil, ty := 2, n := 5, data := [0x48, 0x65, 0x6c, 0x6c, 0x6f], clean := true, ctl := [(9, [0xaa])] },
            { err := .nil, ty := 2, n := 3, data := [1, 2, 3], clean := true, ctl := [] },
            { err := .nodata, ty := 255, n := 0, data := [], clean := true, ctl := [(10, [])] }]) = none := by decide
example : step exS (.read .msg true none)
    (.msgs [{ err := .nil, ty := 1, n := 4, data := [0x48, 0x65, 0x6c, 0x6c, 0x6f], clean := true, ctl := [(9, [0xaa])] },
            { err := .nil, ty := 2, n := 3, data := [1, 2, 3], clean := true, ctl := [] },
            { err := .nodata, ty := 255, n := 0, data := [], clean := true, ctl := [(10, [])] }]) = none := by decide
example : step exS (.read .msg false none) (.msgs (good.take 1 ++ good)) = none := by decide +kernel
example : step exS (.read .msg false none)
    (.msgs [{ err := .nil, ty := 1, n := 5, data := [0x48, 0x65, 0x6c, 0x6c, 0x6f], clean := true, ctl := [] },
            { err := .nil, ty := 2, n := 3, data := [1, 2, 3], clean := true, ctl := [] },
            { err := .nodata, ty := 255, n := 0, data := [], clean := true, ctl := [(10, [])] }]) = none := by decide
example : step exS (.read .msg false none)
    (.msgs [{ err := .nil, ty := 1, n := 6, data := [0x48, 0x65, 0x6c, 0xaa, 0x6c, 0x6f], clean := true, ctl := [(9, [0xaa])] },
            { err := .nil, ty := 2, n := 3, data := [1, 2, 3], clean := true, ctl := [] },
            { err := .nodata, ty := 255, n := 0, data := [], clean := true, ctl := [(10, [])] }]) = none := by decide
example : step exS (.read .frame false none) (.frames ((expectFrames exSession).drop 1)) = none := by decide
example : step exS (.read .frame true none) (.frames (expectFrames exSession)) = some exS := by decide +kernel

/-- **The scripted segmentation loses nothing**: for every list of `cut` lengths (a cut of 0 queues an empty segment: a transport
read that completes with no bytes and no error) the segments the harness feeds, concatenated, are the byte stream. So the
hypothesis `segs.flatten = wire s` of the theorems above holds for every segmentation tie D executes, empty reads included. -/
theorem C06_segments_flatten (cuts : List Nat) (bs : List UInt8) : (segments cuts bs).flatten = bs := by
  induction cuts generalizing bs with
  | nil =>
    unfold segments
    split <;> simp_all
  | cons n r ih =>
    unfold segments
    split
    · simp [ih]
    · split
      · exact ih bs
      · simp [ih, List.take_append_drop]

example : segments [1, 0, 2] [10, 20, 30, 40] = [[10], [], [20, 30], [40]] := by decide

end Sonic.Props.C06
