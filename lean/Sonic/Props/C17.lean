/-
C17 — WebSocket reads and writes in flight together each complete exactly once.

Over the labelled transition system `Sonic.Model.WsAsync` (the asynchronous API of one stream over an adapter with a
single write reactor and a single read reactor; application calls issued at top level or from inside callbacks by an
arbitrary program `prog`; transport events: partial / complete / failed writes, reads that bring any number of frames,
end of stream), for EVERY sequence of labels, by the invariant of `Lemmas/WsAsyncStep.lean`.

What a theorem cannot exhibit — in which poll cycle the kernel reports readiness, how many bytes a `write(2)` accepts,
the real adapter and poller underneath — is observed by the `wsconc` harness on a real `AsyncAdapter` over a real TCP
connection and fed to this model as labels (tie D). Transport errors are modelled (`wrErr`, `rdErr`, `rdEof`); the
callback theorems hold with them, the wire theorems are stated for a transport that has not failed (`healthy`).
-/
import Sonic.Lemmas.WsAsyncStep
import Sonic.Lemmas.WsAsyncObsRun
import Sonic.Spec.WsAsync

namespace Sonic.Props.C17
open Sonic.Model.WsAsync

variable {prog : CbId → List Action}

/-- **The adapter's write reactor is never overwritten.** In every reachable state no write was ever started while
another one was in flight (`overwritten` is set by `startWrite` exactly in that case), a write is in flight exactly
while `asyncFlushing` is set, flush callers are parked only meanwhile, and the buffer handed to the transport is one
frame. This is what `asyncFlushing` buys (compare `C17_unserialised_drops_callback`). -/
theorem C17_single_write_in_flight {s : St} (h : Reach prog s) :
    s.overwritten = false ∧ s.flushing = s.wr.isSome ∧ (s.wr = none → s.waiters = []) ∧
    (∀ w, s.wr = some w → ∃ f, w.buf = [f]) := by
  have hI := (reach_inv h).core
  exact ⟨hI.notOver, hI.flushWr, hI.waiters_nil, hI.one⟩

/-- every callback the library still owes is accounted for: handed to the API = invoked + owed -/
theorem ledger {s : St} (h : Reach prog s) (c : CbId) :
    s.started.count c = s.log.count c + (owedList s).countP (·.1 == c) := (reach_inv h).cbs c

/-- **At most once, always.** In every reachable state no callback has been invoked twice, and only callbacks that
were handed to the API have been invoked. -/
theorem C17_callbacks_at_most_once {s : St} (h : Reach prog s) :
    (∀ c, s.log.count c ≤ 1) ∧ (∀ c, c ∈ s.log → c ∈ s.started) :=
  ⟨log_count_le_one (reach_inv h), log_started (reach_inv h)⟩

/-- **Exactly once at quiescence.** When nothing is executing and neither reactor is armed, every callback handed to
`AsyncNextFrame`, `AsyncNextMessage`, `AsyncWrite`, `AsyncWriteFrame`, `AsyncFlush` or `AsyncClose` has been invoked
exactly once — whatever the interleaving of calls (also from inside callbacks), peer frames, partial writes and
transport failures was. -/
theorem C17_callbacks_exactly_once {s : St} (h : Reach prog s) (hq : quiescent s) :
    ∀ c, c ∈ s.started → s.log.count c = 1 :=
  log_count_of_quiescent (reach_inv h) hq

/-- **No callback is parked without a reactor that will wake it.** Whenever no code is executing, a callback that was
handed to the API and has not run yet is either the reader the read reactor is armed for, or a write is in flight
(whose completion runs the owner and every waiter). In particular an application write never swallows the
continuation of a read and the read path's control replies never swallow the completion of a write. -/
theorem C17_pending_callback_has_reactor {s : St} (h : Reach prog s) (hst : s.stack = []) (c : CbId)
    (hc : c ∈ s.started) (hn : c ∉ s.log) : s.wr.isSome = true ∨ ∃ rk, s.rd = some (c, rk) :=
  pending_has_reactor (reach_inv h) hst hc hn

/-- **A callback is entered only while it is owed.** The model takes an `enter cb` transition only for a callback that
was handed to the API and has not run yet (the transition-level form of "never twice, never invented"). -/
theorem C17_enter_only_owed {s s' : St} {cb : CbId} {r : Res} (h : Reach prog s)
    (hs : step true prog s (.enter cb r) = some s') : cb ∈ s.started ∧ cb ∉ s.log := by
  obtain ⟨isRead, rest, hst, _⟩ := of_step_enter hs
  exact enter_owed (reach_inv h) hst

/-- **At most one read is outstanding and it is owed exactly once**: the number of owed reader callbacks is 1 while a
read is outstanding and 0 otherwise (so the single read reactor is never armed for two readers). -/
theorem C17_one_reader {s : St} (h : Reach prog s) :
    (owedList s).countP (·.2) = if s.readBusy then 1 else 0 := (reach_inv h).reads

/-- **Wire order.** While the transport has not failed, the frames completely accepted by the transport, then the
frame in flight, then `pendingFrames` are exactly the submitted frames in submission order (nothing lost, repeated or
reordered: application frames in the order of the calls, a Pong / Close reply behind the frames queued before the
Ping / Close was read); and byte for byte the transport has received the complete frames one after the other followed
by a prefix of the frame in flight — bytes of different frames are never interleaved or repeated. -/
theorem C17_wire_order {s : St} (h : Reach prog s) (hh : s.healthy = true) :
    s.wire ++ wrBuf s ++ s.pending = s.submitted ∧ s.bytes = bufBytes s.wire ++ wrDone s :=
  ⟨(reach_inv h).wire.frames hh, (reach_inv h).wire.bytes hh⟩

/-- Once everything submitted has been flushed, the wire is exactly the submission sequence. -/
theorem C17_wire_complete {s : St} (h : Reach prog s) (hh : s.healthy = true) (hwr : s.wr = none) (hp : s.pending = []) :
    s.wire = s.submitted ∧ s.bytes = bufBytes s.submitted :=
  (reach_inv h).wire.complete hh hwr hp

/-! ### Running label lists (used by the witnesses) -/

theorem run_reach {s s' : St} (h : Reach prog s) : ∀ {ls : List Label}, run true prog s ls = some s' → Reach prog s'
  | [], hr => by simp only [run, Option.some.injEq] at hr; exact hr ▸ h
  | l :: r, hr => by
    simp only [run] at hr
    split at hr
    · rename_i s1 hs; exact run_reach (Reach.step l h hs) hr
    · cases hr

/-! ### Why the flag is needed: the code before commit 54ea8af (`ser = false`)

The historical witness: a Ping arrives; read #1 completes and its callback starts read #2, whose flush of the queued
Pong is in flight; the application calls AsyncWrite. Without serialisation the second `AsyncWriteAll` re-initialises
the adapter's write reactor: the first write's callback — the closure that would have started read #2 — is gone. -/

-- the `decide` proofs below compare tuples of seven components
set_option synthInstance.maxSize 1024

def ping2 : InFrame := { op := .ping, fin := true, len := 2, viol := false, closeOk := false }
def text1 : InFrame := { op := .text, fin := true, len := 1, viol := false, closeOk := false }

/-- the callback of read #1 starts read #2 -/
def rearm : CbId → List Action := fun cb => if cb = 1 then [.read 2] else []

def witnessOld : List Label :=
  [.call (.read 1), .tau, .ret,                         -- read #1: nothing to flush, the read reactor is armed
   .call .poll, .rdGot [ping2],                          -- the Ping arrives: a Pong is queued, read #1 completes
   .enter 1 .ok, .call (.read 2), .ret, .exit 1, .ret,   -- its callback starts read #2: the Pong flush is in flight
   .call (.write 3 11), .ret,                            -- AsyncWrite: a second AsyncWriteAll on the same reactor
   .call .poll, .wrote 19, .enter 3 .ok, .exit 3, .ret]  -- one write of Pong + message completes; only callback 3 runs

/-- **Without the serialisation a read continuation is dropped**: the model with `asyncFlushing` ignored reaches a
quiescent state with a healthy transport in which the write reactor was overwritten and callback 2 (read #2) was
handed to the API, never ran, and is owed by nobody any more. -/
theorem C17_unserialised_drops_callback :
    (run false rearm {} witnessOld).map
      (fun s => (decide (quiescent s), s.healthy, s.overwritten, s.started, s.log, (owedList s).map (·.1), s.pending.length)) =
    some (true, true, true, [1, 2, 3], [1, 3], [], 0) := by decide +kernel

/-- With a partially written first buffer the bytes already accepted are written again: a large write (10 bytes,
4 of them accepted) is in flight when the read path's Pong flush re-initialises the reactor with the whole buffer:
the transport receives bytes 0-3 of frame 2 twice, and callback 2 (the application write) is owed by nobody. -/
def witnessOldBytes : List Label :=
  [.call (.read 1), .tau, .ret,
   .call (.write 2 10), .ret,
   .call .poll, .wrote 4, .rdGot [ping2],
   .enter 1 .ok, .call (.read 3), .ret, .exit 1,
   .wrote 18, .tau, .ret]

def rearm3 : CbId → List Action := fun cb => if cb = 1 then [.read 3] else []

theorem C17_unserialised_repeats_bytes :
    (run false rearm3 {} witnessOldBytes).map
      (fun s => (s.healthy, s.overwritten, s.bytes.take 6, decide (s.bytes.Nodup), s.started, s.log, (owedList s).map (·.1))) =
    some (true, true, [(.app 2, 0), (.app 2, 1), (.app 2, 2), (.app 2, 3), (.app 2, 0), (.app 2, 1)], false, [1, 2, 3], [1], [3]) := by
  decide +kernel

/-! ### Non-vacuity: the same history on the code as it is

The same calls and peer events, with the labels the serialised code takes: the AsyncWrite waits behind the Pong flush,
the Pong and then the message reach the wire, read #2 is started, and after one more frame all three callbacks have run
exactly once. The state is reachable, quiescent and healthy, so every theorem above applies to it. -/

def witnessNew : List Label :=
  [.call (.read 1), .tau, .ret,
   .call .poll, .rdGot [ping2],
   .enter 1 .ok, .call (.read 2), .ret, .exit 1, .ret,
   .call (.write 3 11), .ret,                            -- queued behind the flush in flight
   .call .poll, .wrote 8, .ret,                          -- the Pong is out; the same flush goes on with the message
   .call .poll, .wrote 5, .ret,                          -- partially accepted
   .call .poll, .wrote 6, .tau, .enter 3 .ok, .exit 3, .ret,   -- complete: read #2 is started, then callback 3 runs
   .call .poll, .rdGot [text1], .enter 2 .ok, .exit 2, .ret]

example : (run true rearm {} witnessNew).map
      (fun s => (decide (quiescent s), s.healthy, s.overwritten, s.started, s.log, s.wire.map (·.tag), s.bytes.length)) =
    some (true, true, false, [1, 2, 3], [1, 3, 2], [.pong 0, .app 3], 19) := by decide +kernel

/-- the final state of `witnessNew` is reachable, quiescent and healthy -/
example : ∃ s, Reach rearm s ∧ quiescent s ∧ s.healthy = true ∧ s.started = [1, 2, 3] := by
  have hr : (run true rearm {} witnessNew).isSome = true := by decide +kernel
  obtain ⟨s, hs⟩ := Option.isSome_iff_exists.1 hr
  refine ⟨s, run_reach Reach.init hs, ?_, ?_, ?_⟩
  all_goals
    have : (run true rearm {} witnessNew).map (fun s => (decide (quiescent s), s.healthy, s.started)) = some (true, true, [1, 2, 3]) := by decide +kernel
    rw [hs] at this
    simp only [Option.map_some, Option.some.injEq, Prod.mk.injEq, decide_eq_true_eq] at this
  · exact this.1
  · exact this.2.1
  · exact this.2.2

/-- The model is not trivially accepting: a callback cannot be entered when the library has not invoked it. -/
example : run true rearm {} [.call (.read 1), .tau, .ret, .enter 1 .ok] = none := by decide +kernel

/-! ### The property monitor (`Spec/WsAsync.lean`) is not trivially accepting

It accepts a correct history and rejects: a callback entered twice, a callback that never ran although the run ended
with a healthy transport, frames on the wire in another order than they were submitted, a frame on the wire twice, a
Pong that overtakes a frame queued before the Ping was read. -/

section Monitor
open Sonic.Spec.WsAsync

def wf (cb op len : Nat) : WireFrame :=
  { fin := true, rsv := 0, op := op, masked := true, len := len, hash := fnv (pattern cb len), head := (pattern cb len).take 4 }

def aPing : Sonic.Spec.WsStream.InFrame := { fin := true, rsv := 0, op := 9, masked := false, payload := [7] }
def itsPong : WireFrame := { fin := true, rsv := 0, op := 10, masked := true, len := 1, hash := fnv [7], head := [7] }

example : accepts 1000 [.callFlush 1, .enter 1 .ok none none .active, .exit 1, .ret .active, .finish 0 true] = true := by decide +kernel
example : accepts 1000 [.callFlush 1, .enter 1 .ok none none .active, .exit 1, .enter 1 .ok none none .active] = false := by decide +kernel
example : accepts 1000 [.callRead 1, .ret .active, .finish 0 true] = false := by decide +kernel
example : accepts 1000 [.callWrite 1 1 2, .ret .active, .callWrite 2 2 3, .ret .active, .wire [wf 1 1 2, wf 2 2 3]] = true := by decide +kernel
example : accepts 1000 [.callWrite 1 1 2, .ret .active, .callWrite 2 2 3, .ret .active, .wire [wf 2 2 3, wf 1 1 2]] = false := by decide +kernel
example : accepts 1000 [.callWrite 1 1 2, .ret .active, .wire [wf 1 1 2, wf 1 1 2]] = false := by decide +kernel
example : accepts 1000 [.callRead 1, .ret .active, .callWrite 2 1 2, .ret .active, .peer aPing, .callPoll,
    .enter 1 .ok (some aPing) none .active, .exit 1, .ret .active, .wire [wf 2 1 2, itsPong]] = true := by decide +kernel
example : accepts 1000 [.callRead 1, .ret .active, .callWrite 2 1 2, .ret .active, .peer aPing, .callPoll,
    .enter 1 .ok (some aPing) none .active, .exit 1, .ret .active, .wire [itsPong, wf 2 1 2]] = false := by decide +kernel

end Monitor

/-! ### The property monitor accepts every history of the model (refinement)

`Sonic.Model.WsAsyncObs.otrace max prog {} {} ls` executes the observed labels `ls` on the model from the initial state
(each is a model label with the concrete data a trace line carries, or an event of the environment: the peer sends a
frame, the peer reports what it parsed, the run ends) and returns the events a process observes - exactly what the trace
driver feeds the monitor with for such a trace. For EVERY such run (any program of the callbacks, any length, transport
failures included) the monitor `Sonic.Spec.WsAsync` accepts these events: by the coupling invariant
`Sonic.Model.WsAsyncObs.Coup` between model, observer and monitor states (`Lemmas/WsAsyncObsRel.lean`), kept by every step
(`step_sim`), and induction over the run (`run_sim`). So the callback ledger (never twice, never unknown, no error
completion on a healthy transport, every callback run at a quiescent end), the wire order (what the peer parses is the
submitted frames in submission order, replies behind what was queued before) and the read results (what reads deliver is
the peer's stream) hold of every model history in the very form in which real traces are checked. -/

section Refinement
open Sonic.Model.WsAsyncObs

/-- **Refinement.** Every observed run of the model is accepted by the property monitor. -/
theorem C17_monitor_accepts_model (max : Nat) (prog : CbId → List Action) (ls : List OLabel) (evs : List Sonic.Spec.WsAsync.Ev)
    (h : otrace max prog {} {} ls = some evs) : Sonic.Spec.WsAsync.accepts max evs = true := by
  obtain ⟨m', hm⟩ := run_sim (max := max) (prog := prog) ls {} {} { max := max } evs init_inv (coup_init max) h
  unfold Sonic.Spec.WsAsync.accepts
  rw [show Sonic.Spec.WsAsync.run { max := max } evs = .ok m' from hm]

/-- The observed runs are the model's runs: an observed step takes the model transition its label stands for, and every
transition the model can take is observed (the observation function is total on them). -/
theorem C17_observed_steps_are_model_steps {max : Nat} {prog : CbId → List Action} {s s' : St} {o : Ob} {l : OLabel}
    {lab : Label} (hl : l.label max o = some lab) :
    (∀ o' evs, ostep max prog s o l = some (s', o', evs) → step true prog s lab = some s') ∧
    (step true prog s lab = some s' → ∃ o' evs, ostep max prog s o l = some (s', o', evs)) :=
  ⟨fun _ _ hs => ostep_model hs hl, fun hs => ostep_total hl hs⟩

/-- Non-vacuity: the history of `witnessNew` with concrete data - a Ping `07 07` arrives while read #1 is armed, the
callback of read #1 starts read #2 (the Pong flush is in flight), AsyncWrite of 5 bytes waits behind it, the peer parses
the Pong and then the message, a text frame completes read #2, the run ends at rest. The model executes it, the observer
produces 27 events (with both `wire` reports and the end-of-run check), and by the theorem the monitor accepts them. -/
def observedRun : List OLabel :=
  [.call (.read 1), .tau, .ret,
   .peer { fin := true, rsv := 0, op := 9, masked := false, payload := [7, 7] },
   .call .poll, .rdGot 1, .enter 1 .ok, .call (.read 2), .ret, .exit 1, .ret,
   .call (.write 3 1 5), .ret,
   .call .poll, .wrote 8, .ret, .drain 1,
   .call .poll, .wrote 5, .ret,
   .call .poll, .wrote 6, .tau, .enter 3 .ok, .exit 3, .ret, .drain 1,
   .peer { fin := true, rsv := 0, op := 1, masked := false, payload := [104, 105] },
   .call .poll, .rdGot 1, .enter 2 .ok, .exit 2, .ret, .finish]

example : (otrace 1000 rearm {} {} observedRun).map List.length = some 27 := by decide +kernel

example : ∃ evs, otrace 1000 rearm {} {} observedRun = some evs ∧ Sonic.Spec.WsAsync.accepts 1000 evs = true := by
  have h : (otrace 1000 rearm {} {} observedRun).isSome = true := by decide +kernel
  obtain ⟨evs, he⟩ := Option.isSome_iff_exists.1 h
  exact ⟨evs, he, C17_monitor_accepts_model 1000 rearm observedRun evs he⟩

/-- The observer does not observe what the model cannot do: a `drain` that reports a frame the transport has not
completely accepted is not an observed run. -/
example : otrace 1000 rearm {} {} [.call (.write 1 1 5), .ret, .drain 1] = none := by decide +kernel

/-- Why the monitor is told of transport failures (`transportErr`): the model (like `asyncFlush` in stream.go) completes
the write whose frame the transport refused with an error. A monitor that cannot see the failure rejects that history
as "write completed with an error on a healthy transport"; told of it, it accepts - and still rejects the same error
completion when the transport did not fail. -/
def failedWrite : List OLabel := [.call (.write 1 1 5), .ret, .call .poll, .wrErr, .enter 1 .err, .exit 1, .ret]

example : (otrace 1000 (fun _ => []) {} {} failedWrite).isSome = true := by decide +kernel
example : Sonic.Spec.WsAsync.accepts 1000 [.callWrite 1 1 5, .ret .active, .callPoll, .transportErr,
    .enter 1 .err none none .active, .exit 1, .ret .active] = true := by decide +kernel
example : Sonic.Spec.WsAsync.accepts 1000 [.callWrite 1 1 5, .ret .active, .callPoll,
    .enter 1 .err none none .active, .exit 1, .ret .active] = false := by decide +kernel

end Refinement

end Sonic.Props.C17
