/-
C16 — every frame the WebSocket client writes is well-formed and correctly masked.

Frame level: the model of `AcquireFrame … SetPayload … prepareWrite/MaskPayload … Encode` (`Model/WsEncode.lean`,
`Model/WsWritePath.lean: buildFrame`) for an ARBITRARY pooled slice; the wire bytes are compared with the reference
encoder of `Spec/WsFrame.lean` and the well-formedness predicate `FrameOk` of the wire monitor (`Spec/WsWire.lean`).
Stream level: `Model/WsWritePath.lean` (pending queue, blocking and asynchronous flush, partial writes).
-/
import Sonic.Lemmas.WsEncodeModel
import Sonic.Lemmas.WsWritePathInv
import Sonic.Props.WsFrameTie

namespace Sonic.Props.C16
open Sonic.Model.WsBuf Sonic.Model.WsFrame Sonic.Model.WsEncode Sonic.Model.WsWritePath Sonic.Spec.WsFrame
open Sonic.Spec.WsWire (Req FrameOk xorKey)

/-- What `AcquireFrame` may hand out: a slice of at least 2 bytes (the header) inside a backing array of at least
14 bytes (`NewFrame` allocates 14, `ExtendSlice` never lowers the capacity) whose first byte is zero (`Reset`);
everything else — the second byte, the length, all other contents — is arbitrary. -/
def Pooled (f : PFrame) : Prop := 2 ≤ f.len ∧ f.len ≤ f.arr.length ∧ 14 ≤ f.arr.length ∧ f.arr.getD 0 0 = 0

theorem pooled_cases {f : PFrame} (h : Pooled f) :
    ∃ a1 rest, f = ⟨0 :: a1 :: rest, f.len⟩ ∧ 12 ≤ rest.length ∧ f.len ≤ 2 + rest.length := by
  obtain ⟨arr, len⟩ := f
  obtain ⟨h2, hl, h14, h0⟩ := h
  dsimp only at *
  match arr, h14, h0, hl with
  | a0 :: a1 :: rest, h14, h0, hl =>
    simp only [List.getD_cons_zero] at h0
    subst h0
    refine ⟨a1, rest, rfl, ?_, ?_⟩ <;> simp only [List.length_cons] at h14 hl <;> omega

/-- **Wire format, frames with a payload** (application messages, caller-built frames with `SetPayload`, Pong, Close):
for every pooled slice, FIN, opcode, payload and key, the bytes handed to the transport are exactly the RFC 6455
encoding (`encode`: mask bit set, shortest length form, 4-byte key, masked payload — nothing after it) of a frame
that un-masks to the caller's bytes. -/
theorem C16_wire_format (pooled : PFrame) (hp : Pooled pooled) (fin : Bool) (c : UInt8) (b key : List UInt8)
    (hn : b.length < 2 ^ 63) (hk : key.length = 4) :
    ∃ fr : Frame, buildFrame pooled fin c (some b) key = .ok (encode fr, decide (b.length > 0)) ∧
      FrameOk ⟨fin, c.toNat % 16, b⟩ fr := by
  obtain ⟨a1, rest, hf, h12, hlen⟩ := pooled_cases hp
  obtain ⟨h2, _, _, _⟩ := hp
  obtain ⟨M0, C0, hM0, hSP⟩ := setPayload_eq (hb0 fin c) (a1 ||| 0x80) rest b pooled.len h2 hlen h12 (or_and_self a1 0x80) hn
  rw [hf, buildFrame_eq, header_bind h2]
  dsimp only
  rw [hSP, ebind_ok, buildTail_eq (hdrOk b.length hn) (or80_idem _) hM0 hk (Nat.le_refl _)]
  generalize hM : (if b.length > 0 then key else M0) = K
  generalize hS : (if b.length > 0 then maskBytes key b else b) = S
  have hMl : K.length = 4 := by subst hM; split <;> assumption
  have hSl : S.length = b.length := by
    subst hS; split
    · exact length_maskBytes key b
    · rfl
  refine ⟨{ fin := fin, rsv1 := false, rsv2 := false, rsv3 := false, opcode := c.toNat % 16, masked := true, mask := K,
            payload := S }, ?_, rfl, hMl, rfl, rfl, rfl, rfl, rfl, ?_⟩
  · rw [encode_masked fin c K S (by rw [hSl]; exact hn), hSl, List.take_of_length_le (Nat.le_of_eq hSl)]
  · show xorKey K S = b
    subst hM hS
    by_cases hpos : b.length > 0
    · rw [if_pos hpos, if_pos hpos, xorKey_eq_maskBytes, maskBytes_involution]
    · have hb : b = [] := List.eq_nil_of_length_eq_zero (by omega)
      subst hb; rfl

/-- **Wire format, frames built without `SetPayload`** (the defect repaired by 2ffe590: an empty Ping after a 300-byte
message wrote 308 bytes): whatever length and contents the pooled slice has, exactly the 6 header bytes of an empty
masked frame are written. -/
theorem C16_wire_format_no_payload (pooled : PFrame) (hp : Pooled pooled) (h6 : 6 ≤ pooled.len)
    (h1 : pooled.arr.getD 1 0 = 0) (fin : Bool) (c : UInt8) (key : List UInt8) (hk : key.length = 4) :
    ∃ fr : Frame, buildFrame pooled fin c none key = .ok (encode fr, decide (pooled.len > 6)) ∧
      (encode fr).length = 6 ∧ FrameOk ⟨fin, c.toNat % 16, []⟩ fr := by
  obtain ⟨a1, rest, hf, h12, hlen⟩ := pooled_cases hp
  obtain ⟨h2, _, _, _⟩ := hp
  have ha1 : a1 = 0 := by rw [hf] at h1; simpa using h1
  subst ha1
  rw [hf]
  generalize pooled.len = L at *
  have hok : HdrOk ((0 : UInt8) ||| 0x80) [] 0 := hdrOk 0 (by decide)
  -- the slice: 4 bytes where the key goes, the stale payload slice, the rest of the backing array
  obtain ⟨M0, S, C0, hrest, hM0, hL⟩ : ∃ M0 S C0 : List UInt8,
      rest = [] ++ M0 ++ S ++ C0 ∧ M0.length = 4 ∧ L = 2 + ([] : List UInt8).length + 4 + S.length := by
    refine ⟨rest.take 4, (rest.drop 4).take (L - 6), (rest.drop 4).drop (L - 6), ?_, ?_, ?_⟩
    · simp only [List.nil_append, List.append_assoc, List.take_append_drop]
    · rw [List.length_take]; omega
    · rw [List.length_take, List.length_drop]; simp only [List.length_nil]; omega
  subst hrest hL
  rw [buildFrame_eq, header_bind h2]
  dsimp only
  rw [epure, ebind_ok, buildTail_eq hok (by decide) hM0 hk (Nat.zero_le _)]
  generalize hM : (if S.length > 0 then key else M0) = K
  have hMl : K.length = 4 := by subst hM; split <;> assumption
  refine ⟨{ fin := fin, rsv1 := false, rsv2 := false, rsv3 := false, opcode := c.toNat % 16, masked := true, mask := K,
            payload := [] }, ?_, ?_, rfl, hMl, rfl, rfl, rfl, rfl, rfl, rfl⟩
  · rw [encode_masked fin c K [] (by decide), decide_eq_decide.mpr
      (show 2 + ([] : List UInt8).length + 4 + S.length > 6 ↔ S.length > 0 by simp only [List.length_nil]; omega)]
    rfl
  · rw [encode_masked fin c K [] (by decide)]
    show (hb0 fin c :: _ :: ([] ++ K ++ [])).length = 6
    simp only [List.length_cons, List.length_append, List.length_nil, hMl]

/-- **`Mask` is an involution** (util.go `Mask(mask, b)`: `b[i] ^= mask[i&3]`): un-masking what was masked with the same
key gives the caller's bytes back, for every key (of any length) and every byte string. -/
theorem C16_mask_involution (key b : List UInt8) : maskBytes key (maskBytes key b) = b := maskBytes_involution key b

/-- **A message above the configured maximum is refused**: `Write`/`AsyncWrite` report `ErrMessageTooBig`, nothing is
written, nothing is queued, the stream is unchanged. -/
theorem C16_refuse_above_max (s : WS) (id : Nat) (async : Bool) (opcode : UInt8) (payload : List UInt8) (keys : List (List UInt8))
    (h : (payload.length : Int) > s.max) :
    ∃ o, Model.WsWritePath.step s id (.write async opcode payload keys) = .ok (some (s, o)) ∧ o.wire = [] ∧ o.segs = [] ∧
      (if async then o.cbs = [(id, Err.tooBig)] ∧ o.res = none else o.res = some Err.tooBig ∧ o.cbs = []) := by
  simp only [Model.WsWritePath.step]
  rw [if_pos h]
  cases async <;> exact ⟨_, rfl, rfl, rfl, by simp⟩

/-- The request an operation submits. -/
def reqOf : WOp → Option Req
  | .write _ oc p _ => some ⟨true, oc.toNat % 16, p⟩
  | .frame _ oc fin p _ _ => some ⟨fin, oc.toNat % 16, p.getD []⟩
  | .close _ code reason _ => some ⟨true, 8, beBytes 2 (code % 65536) ++ reason⟩
  | _ => none

/-- Usage the theorems cover: payloads are Go slices (shorter than 2^61), and a caller-built frame comes from
`AcquireFrame` of a client stream, whose slices always hold the 6 header bytes. 2^61 stays below the monitor's
`Spec.WsWire.parseMax`, which `C16_wire_parses` needs. -/
def OpOk : WOp → Prop
  | .write _ _ p _ => p.length < 2 ^ 61
  | .frame _ _ _ p flen _ => (p.getD []).length < 2 ^ 61 ∧ 6 ≤ flen
  | .close _ _ r _ => r.length + 2 < 2 ^ 61
  | _ => True

theorem pooled_new : Pooled PFrame.new := by
  refine ⟨by decide, by decide, by decide, by decide⟩

theorem pooled_pooledFrame (n : Nat) (h : 2 ≤ n) : Pooled (pooledFrame n) ∧ (pooledFrame n).arr.getD 1 0 = 0 := by
  unfold Pooled pooledFrame
  dsimp only
  have hm : 14 ≤ max n 14 := Nat.le_max_right _ _
  have hn : n ≤ max n 14 := Nat.le_max_left _ _
  obtain ⟨k, hk⟩ : ∃ k, max n 14 = k + 2 := ⟨max n 14 - 2, by omega⟩
  rw [List.length_replicate, hk]
  refine ⟨⟨h, by omega, by omega, ?_⟩, ?_⟩ <;> simp [List.replicate_succ]

theorem buildFrame_ok {pooled : PFrame} {fin : Bool} {c : UInt8} {p : Option (List UInt8)} {key : List UInt8} {r : List UInt8 × Bool}
    (hp : Pooled pooled) (h1 : pooled.arr.getD 1 0 = 0) (h6 : 6 ≤ pooled.len) (hn : (p.getD []).length < 2 ^ 61)
    (hk : key.length = 4) (h : buildFrame pooled fin c p key = .ok r) :
    ∃ fr : Frame, r.1 = encode fr ∧ FrameOk ⟨fin, c.toNat % 16, p.getD []⟩ fr := by
  have h63 : (p.getD []).length < 2 ^ 63 := Nat.lt_trans hn (by decide)
  cases p with
  | some b =>
    obtain ⟨fr, hfr, hok⟩ := C16_wire_format pooled hp fin c b key h63 hk
    rw [hfr] at h; cases h
    exact ⟨fr, rfl, hok⟩
  | none =>
    obtain ⟨fr, hfr, _, hok⟩ := C16_wire_format_no_payload pooled hp h6 h1 fin c key hk
    rw [hfr] at h; cases h
    exact ⟨fr, rfl, hok⟩

theorem buildChecked_ok {pooled : PFrame} {fin : Bool} {c : UInt8} {p : Option (List UInt8)} {keys : List (List UInt8)} {fr : List UInt8}
    (hp : Pooled pooled) (h1 : pooled.arr.getD 1 0 = 0) (h6 : 6 ≤ pooled.len) (hn : (p.getD []).length < 2 ^ 61)
    (h : buildChecked pooled fin c p keys = .ok fr) :
    ∃ f : Frame, fr = encode f ∧ FrameOk ⟨fin, c.toNat % 16, p.getD []⟩ f := by
  unfold buildChecked at h
  by_cases hk : (keys.headD [0, 0, 0, 0]).length = 4
  · rw [if_neg (by simpa using hk)] at h
    cases hb : buildFrame pooled fin c p (keys.headD [0, 0, 0, 0]) with
    | error e => rw [hb] at h; cases h
    | ok r =>
      rw [hb] at h
      simp only [ebind_ok] at h
      obtain ⟨f, hf, hok⟩ := buildFrame_ok hp h1 h6 hn hk hb
      split at h
      · cases h; exact ⟨f, hf, hok⟩
      · cases h
  · rw [if_pos hk] at h; cases h

/-- Every frame ever queued is the reference encoding of a well-formed masked frame carrying a request. -/
def HistOk (s : WS) : Prop :=
  ∃ rs : List (Req × Frame), s.hist = rs.map (fun p => encode p.2) ∧ ∀ p ∈ rs, FrameOk p.1 p.2 ∧ p.1.payload.length < 2 ^ 61 ∧ p.1.opcode < 16

theorem histOk_snoc {s s' : WS} {fr : List UInt8} {r : Req} {f : Frame} (h : HistOk s) (hh : s'.hist = s.hist ++ [fr])
    (hf : fr = encode f) (hok : FrameOk r f) (hl : r.payload.length < 2 ^ 61) (ho : r.opcode < 16) : HistOk s' := by
  obtain ⟨rs, h1, h2⟩ := h
  refine ⟨rs ++ [(r, f)], by rw [hh, h1, hf]; simp, ?_⟩
  intro p hp
  rcases List.mem_append.mp hp with h | h
  · exact h2 p h
  · simp only [List.mem_singleton] at h; rw [h]; exact ⟨hok, hl, ho⟩

theorem submit_ok {s s' : WS} {o : Out} (hI : s.Inv) (hH : HistOk s) {pooled : PFrame} {fin : Bool} {c : UInt8}
    {p : Option (List UInt8)} {keys : List (List UInt8)} {async : Bool} {id : Nat}
    (h : (do let fr ← buildChecked pooled fin c p keys
             pure (submit s {} async id fr)) = .ok (some (s', o)))
    (hp : Pooled pooled) (h1 : pooled.arr.getD 1 0 = 0) (h6 : 6 ≤ pooled.len) (hn : (p.getD []).length < 2 ^ 61) :
    s'.Inv ∧ HistOk s' ∧ s'.max = s.max ∧ (o.res = some Err.nil → s'.Quiescent) := by
  cases hb : buildChecked pooled fin c p keys with
  | error e => rw [hb] at h; cases h
  | ok fr =>
    rw [hb] at h
    simp only [ebind_ok, epure, Except.ok.injEq] at h
    obtain ⟨f, hf, hok⟩ := buildChecked_ok hp h1 h6 hn hb
    obtain ⟨i1, i2, i3, i4, i5⟩ := submit_inv {} async id fr hI h
    refine ⟨i1, histOk_snoc hH i2 hf hok hn (Nat.mod_lt _ (by decide)), i3, fun hc => ?_⟩
    cases async with
    | false => exact (i4 rfl).1
    | true => rw [i5 rfl] at hc; cases hc

theorem refused_ok {s s' : WS} {o : Out} (hI : s.Inv) (hH : HistOk s) {async : Bool} {id : Nat} {e : Err} (he : e ≠ Err.nil)
    (h : (pure (some (s, if async then { cbs := [(id, e)] } else { res := some e })) : M (Option (WS × Out))) = .ok (some (s', o))) :
    s'.Inv ∧ HistOk s' ∧ s'.max = s.max ∧ (o.res = some Err.nil → s'.Quiescent) := by
  simp only [epure, Except.ok.injEq, Option.some.injEq, Prod.mk.injEq] at h
  obtain ⟨rfl, rfl⟩ := h
  refine ⟨hI, hH, rfl, fun hc => ?_⟩
  cases async
  · exact absurd (Option.some.inj hc) he
  · cases hc

/-- **One operation** keeps the stream invariant and the well-formedness of everything queued; a blocking call that
returns `nil` leaves nothing queued and nothing in flight. -/
theorem step_ok {s : WS} (id : Nat) (op : WOp) (hop : OpOk op) (hI : s.Inv) (hH : HistOk s) {s' : WS} {o : Out}
    (h : Model.WsWritePath.step s id op = .ok (some (s', o))) :
    s'.Inv ∧ HistOk s' ∧ s'.max = s.max ∧ (o.res = some Err.nil → s'.Quiescent) := by
  have hsame : ∀ {t : WS}, t.hist = s.hist → HistOk t := fun ht => by
    obtain ⟨rs, h1, h2⟩ := hH; exact ⟨rs, by rw [ht]; exact h1, h2⟩
  cases op with
  | plan _ | defer _ =>
    simp only [Model.WsWritePath.step, epure, Except.ok.injEq, Option.some.injEq, Prod.mk.injEq] at h
    obtain ⟨rfl, rfl⟩ := h
    exact ⟨hI, hsame rfl, rfl, fun hc => by cases hc⟩
  | pump =>
    simp only [Model.WsWritePath.step, epure, Except.ok.injEq, Option.some.injEq] at h
    have := asyncRun_inv (2 * s.pending.length + 4) s {} false hI (fun hc => by cases hc)
    have hr := asyncRun_res (2 * s.pending.length + 4) s {} false
    rw [h] at this hr
    exact ⟨this.1, hsame this.2.1, this.2.2.1, fun hc => by rw [hr] at hc; cases hc⟩
  | flush async =>
    simp only [Model.WsWritePath.step] at h
    cases async with
    | true =>
      simp only [if_true, epure, Except.ok.injEq, Option.some.injEq] at h
      have := asyncFlush_inv {} id hI
      have hr := asyncFlush_res s {} id
      rw [h] at this hr
      exact ⟨this.1, hsame this.2.1, this.2.2.1, fun hc => by rw [hr] at hc; cases hc⟩
    | false =>
      simp only [Bool.false_eq_true, if_false] at h
      split at h
      · cases h
      · rename_i hnf
        simp only [epure, Except.ok.injEq] at h
        obtain ⟨i1, i2, i3, i4, _⟩ := flushSync_done hI hnf h
        exact ⟨i1, hsame i3, i4, fun _ => i2⟩
  | write async oc p keys =>
    simp only [Model.WsWritePath.step] at h
    by_cases hbig : (p.length : Int) > s.max
    · rw [if_pos hbig] at h; exact refused_ok hI hH (by decide) h
    rw [if_neg hbig] at h
    by_cases hact : s.active = true
    · rw [if_pos hact] at h; exact submit_ok hI hH h pooled_new (by decide) (by decide) hop
    · rw [if_neg hact] at h; exact refused_ok hI hH (by decide) h
  | frame async oc fin p flen keys =>
    simp only [Model.WsWritePath.step] at h
    by_cases hact : s.active = true
    · rw [if_pos hact] at h
      obtain ⟨hpp, hp1⟩ := pooled_pooledFrame flen (by have := hop.2; omega)
      exact submit_ok hI hH h hpp hp1 hop.2 hop.1
    · rw [if_neg hact] at h; exact refused_ok hI hH (by decide) h
  | close async code reason keys =>
    simp only [Model.WsWritePath.step] at h
    by_cases hact : s.active = true
    · rw [if_pos hact] at h
      have hl : (beBytes 2 (code % 65536) ++ reason).length < 2 ^ 61 := by
        rw [List.length_append, length_beBytes]; unfold OpOk at hop; omega
      exact submit_ok (s := { s with active := false }) hI hH h pooled_new (by decide) (by decide) hl
    · rw [if_neg hact] at h; exact refused_ok hI hH (by decide) h

/-- **Order and completeness** for whole scripts (induction over the operation list; every payload, every partial-write
plan, blocking and asynchronous calls, deferred completion): at every moment the bytes the transport has accepted are a
PREFIX of the concatenation, in submission order, of the frames queued so far — so each frame is written completely
before the next begins and nothing else ever reaches the wire — every queued frame is the reference encoding of a
well-formed masked frame carrying its request, and when nothing is queued or in flight the wire is exactly that
concatenation. -/
theorem C16_order_complete : ∀ (ops : List WOp) (s : WS) (id : Nat) (s' : WS), (∀ op ∈ ops, OpOk op) → s.Inv → HistOk s →
    runOps s id ops = .ok (some s') →
    s'.Inv ∧ HistOk s' ∧ s'.out <+: s'.hist.flatten ∧ (s'.Quiescent → s'.out = s'.hist.flatten) := by
  intro ops
  induction ops with
  | nil =>
    intro s id s' _ hI hH h
    simp only [runOps, epure, Except.ok.injEq, Option.some.injEq] at h
    subst h
    exact ⟨hI, hH, inv_prefix hI, inv_quiescent hI⟩
  | cons op rest ih =>
    intro s id s' hops hI hH h
    unfold runOps at h
    cases hs : Model.WsWritePath.step s id op with
    | error e => rw [hs] at h; cases h
    | ok r =>
      rw [hs] at h
      simp only [ebind_ok] at h
      cases r with
      | none => simp only [epure] at h; cases h
      | some p =>
        obtain ⟨s1, o1⟩ := p
        dsimp only at h
        obtain ⟨i1, i2, _, _⟩ := step_ok id op (hops op (List.mem_cons_self ..)) hI hH hs
        exact ih s1 (id + 1) s' (fun o ho => hops o (List.mem_cons_of_mem _ ho)) i1 i2 h

/-- From a fresh stream. -/
theorem C16_order_complete_init (max : Int) (ops : List WOp) (s' : WS) (hops : ∀ op ∈ ops, OpOk op)
    (h : runOps (WS.init max) 0 ops = .ok (some s')) :
    s'.out <+: s'.hist.flatten ∧ (s'.Quiescent → s'.out = s'.hist.flatten) ∧ HistOk s' := by
  obtain ⟨_, a2, a3, a4⟩ := C16_order_complete ops (WS.init max) 0 s' hops (init_inv max) ⟨[], rfl, fun p hp => by cases hp⟩ h
  exact ⟨a3, a4, a2⟩

/-- **The independent parser recovers the submitted frames**: once nothing is queued or in flight, the RFC 6455 frame
sequence of the complete outgoing byte stream is a list of well-formed masked frames, one per accepted submission and
in submission order, each un-masking to its request's payload — and no byte is left over. -/
theorem C16_wire_parses (max : Int) (ops : List WOp) (s' : WS) (hops : ∀ op ∈ ops, OpOk op)
    (h : runOps (WS.init max) 0 ops = .ok (some s')) (hq : s'.Quiescent) :
    ∃ rs : List (Req × Frame), (∀ p ∈ rs, FrameOk p.1 p.2) ∧
      frames Spec.WsWire.parseMax s'.out = (rs.map (·.2), .needMore) := by
  obtain ⟨_, hall, ⟨rs, h1, h2⟩⟩ := C16_order_complete_init max ops s' hops h
  refine ⟨rs, fun p hp => (h2 p hp).1, ?_⟩
  rw [hall hq, h1]
  have : (rs.map fun p => encode p.2).flatten = (rs.map (·.2)).flatMap encode := by
    rw [List.flatMap_def, List.map_map]; rfl
  rw [this]
  apply frames_encode
  intro f hf
  obtain ⟨p, hp, rfl⟩ := List.mem_map.mp hf
  obtain ⟨hok, hl, hopc⟩ := h2 p hp
  obtain ⟨m1, m2, _, _, _, _, m7, m8⟩ := hok
  have hlen : p.2.payload.length = p.1.payload.length := by
    rw [← m8, xorKey_eq_maskBytes, length_maskBytes]
  refine ⟨⟨?_, by rw [m1]; exact m2, by rw [hlen]; exact Nat.lt_trans hl (by decide)⟩, ?_⟩
  · rw [m7]; exact hopc
  · rw [hlen]; unfold Spec.WsWire.parseMax; omega

/-! ## Non-vacuity -/

def exKey : List UInt8 := [0x11, 0x22, 0x33, 0x44]

set_option maxRecDepth 20000 in
/-- A pooled slice that was last used for a 300-byte message (308 bytes long), reused for an empty Ping without
`SetPayload`: 6 bytes go to the write buffer (before 2ffe590: 308). -/
example : (buildFrame (pooledFrame 308) true 9 none exKey).toOption = some ([0x89, 0x80, 0x11, 0x22, 0x33, 0x44], true) := by decide +kernel

set_option maxRecDepth 20000 in
/-- A pooled slice shrunk to 7 bytes by a 1-byte message, reused for a 200-byte one (16-bit length form): the header is
re-extended first (before a5639d2 the 64-bit form panicked here). -/
example : ((buildFrame ⟨List.replicate 14 0, 7⟩ true 2 (some (List.replicate 200 7)) exKey).toOption.map (·.1.take 8))
    = some [0x82, 0xfe, 0x00, 0xc8, 0x11, 0x22, 0x33, 0x44] := by decide +kernel

def exScript : List WOp :=
  [.plan [1, 2, 100], .write false 1 [0x68, 0x69] [exKey], .frame false 9 true none 8 [exKey], .defer true,
   .write true 2 [] [], .pump, .pump]

theorem run_of_toOption {r : M (Option WS)} {s : WS} (h : r.toOption.join = some s) : r = .ok (some s) := by
  cases r with
  | error e => cases h
  | ok v => cases v with
    | none => cases h
    | some t => simp only [Except.toOption, Option.join_some, Option.some.injEq] at h; rw [h]

/-- The hypotheses of `C16_order_complete` / `C16_wire_parses` hold for a script mixing partial writes, a blocking
message, a caller-built Ping without payload, and a deferred asynchronous empty message: the run succeeds, ends with
nothing queued or in flight, and the wire is the three frames in order. -/
example : (∀ op ∈ exScript, OpOk op) ∧
    ((runOps (WS.init 1000) 0 exScript).toOption.join.map fun s => (s.pending, s.inflight, s.out)) =
      some ([], none, [0x81, 0x82, 0x11, 0x22, 0x33, 0x44, 0x79, 0x4b] ++ [0x89, 0x80, 0x11, 0x22, 0x33, 0x44] ++ [0x82, 0x80, 0, 0, 0, 0]) := by
  constructor
  · intro op hop
    simp only [exScript, List.mem_cons, List.mem_nil_iff, or_false] at hop
    rcases hop with rfl | rfl | rfl | rfl | rfl | rfl | rfl <;> simp [OpOk]
  · decide +kernel

/-- The monitor is not trivial: stale bytes after an empty Ping, a frame without mask bit, and a 16-bit length for a short
payload are all rejected. -/
example : (Sonic.Spec.WsWire.step (Sonic.Spec.WsWire.init 1000) (.submit 0 false ⟨true, 9, []⟩)
    ⟨.ok, [], [0x89, 0x80, 1, 2, 3, 4, 0xaa, 0xbb]⟩).toOption = none := by decide
example : (Sonic.Spec.WsWire.step (Sonic.Spec.WsWire.init 1000) (.submit 0 true ⟨true, 1, [0x68]⟩)
    ⟨.ok, [], [0x81, 0x01, 0x68]⟩).toOption = none := by decide
example : (Sonic.Spec.WsWire.step (Sonic.Spec.WsWire.init 1000) (.submit 0 true ⟨true, 1, [0x68]⟩)
    ⟨.ok, [], [0x81, 0xfe, 0x00, 0x01, 0, 0, 0, 0, 0x68]⟩).toOption = none := by decide
example : (Sonic.Spec.WsWire.step (Sonic.Spec.WsWire.init 1000) (.submit 0 true ⟨true, 1, [0x68]⟩)
    ⟨.ok, [], [0x81, 0x81, 0, 0, 0, 0, 0x68]⟩).toOption ≠ none := by decide

end Sonic.Props.C16
