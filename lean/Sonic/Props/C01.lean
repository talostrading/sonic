/-
C01 — Exactly-once completion of every asynchronous operation (safety part, on the loop model).

The model's transitions are the only ways the library can invoke a completion callback.  The theorems state, for
every state and every event, the facts that make a second invocation impossible: an operation completes inline
inside its start call *or* is registered with the poller, never both; the poller and `Cancel` clear the interest
before they run the handler, so the same registration cannot fire again; `Cancel` does not return while an interest
of the object is still registered; `Close` leaves no interest of the object behind, so no callback of the object can
be dispatched after it.  (The liveness half — "never zero times while the loop is run" — depends on the kernel
reporting readiness and is exercised by the correspondence check's drain phase, not proven.)
After these, over whole histories: a callback is entered at most as often as its operation was started, never without a
start, and a completed operation is referred to nowhere (`C01_at_most_once` …, by the reference count of
`Lemmas/LoopOnceRun`); and against the API-level ledger of `Props/Ledger`: a callback is entered only when owed.
-/
import Sonic.Lemmas.LoopAcct
import Sonic.Props.Ledger
import Sonic.Lemmas.LoopOnceRun

namespace Sonic.Props.C01
open Sonic.Model.Loop
open Sonic.Spec.Loop (Ev Ret Res OpKind ObjKind maxDispatch)

/-- **Inline xor deferred.** When a start call returns, the operation is registered with the poller exactly if
its callback was not invoked inside the call. -/
theorem C01_inline_xor_deferred (w w' : World) (op k : Nat) (kind : OpKind) (completed : Bool) (rest : List K) (r : Ret)
    (o : Obj) (hst : w.stack = .startCall op k kind completed :: rest) (hg : getObj w k = some o)
    (hs : step w (.ret r) = some w') :
    (completed = true → w'.objs = w.objs ∧ w'.pending = w.pending) ∧
    (completed = false → o.closed = false ∧
        w' = { (if kind.isRead then setRead w o op else setWrite w o op) with stack := rest }) := by
  unfold step at hs
  simp only [hst, hg] at hs
  constructor
  · intro hc
    subst hc
    rw [if_pos rfl] at hs
    cases hs
    exact ⟨rfl, rfl⟩
  · intro hc
    subst hc
    rw [if_neg (by decide)] at hs
    obtain ⟨hcl, hs⟩ := of_ite_none hs
    refine ⟨(by simpa using hcl : o.closed = false ∧ ¬o.kind = ObjKind.timer).1, ?_⟩
    by_cases hk : kind.isRead = true
    · rw [if_pos hk] at hs ⊢; exact (Option.some.inj hs).symm
    · rw [if_neg hk] at hs ⊢; exact (Option.some.inj hs).symm

/-- The inline callback can be delivered only once per start call: after it, the frame is marked completed and the
model has no second `enter` transition for it. -/
theorem C01_no_second_inline (w : World) (op k : Nat) (kind : OpKind) (rest : List K)
    (op' : Nat) (res : Res) (n : Int) (data : List UInt8) (early : Bool)
    (hst : w.stack = .startCall op k kind true :: rest) :
    step w (.enter op' res n data early) = none := by
  unfold step
  simp only [hst]
  simp [inUser]

/-- **The poller clears the interest before the handler runs.** After the poller dispatched the handler of a read
(resp. write) operation, the object's read (resp. write) interest is no longer registered. -/
theorem C01_dispatch_clears_interest (w w' : World) (op : Nat) (rest : List K) (info : OpInfo) (o : Obj)
    (hop : getOp w op = some info) (hio : info.kind.isTimer = false ∧ info.kind ≠ .post)
    (hg : getObj w info.obj = some o) (hn : (ids w.objs).Nodup)
    (h : pollDispatch w op rest = some w') :
    ∃ o', getObj w' info.obj = some o' ∧ (if info.kind.isRead then o'.evR = false else o'.evW = false) := by
  cases pollDispatch_sound h with
  | post hop' hkind => rw [hop] at hop'; cases hop'; exact absurd hkind hio.2
  | timer hop' hkind => rw [hop] at hop'; cases hop'; rw [hio.1] at hkind; cases hkind
  | read hop' _ _ hobj _ hdir hset =>
    rw [hop] at hop'; cases hop'
    rw [hg] at hobj; cases hobj
    refine ⟨{ o with evR := false, registered := o.evW }, ?_, by rw [if_pos hdir]⟩
    unfold delRead
    rw [if_pos hset]
    exact getObj_setObj (w := { w with pending := w.pending - 1 }) _ hg rfl
  | write hop' _ _ hobj _ hdir hset =>
    rw [hop] at hop'; cases hop'
    rw [hg] at hobj; cases hobj
    refine ⟨{ o with evW := false, registered := o.evR }, ?_, by rw [if_neg (by simp [hdir])]⟩
    unfold delWrite
    rw [if_pos hset]
    exact getObj_setObj (w := { w with pending := w.pending - 1 }) _ hg rfl

/-- **Cancel does not return while an interest is registered.** `Cancel` can only return (the model has a `ret`
transition) when neither the read nor the write interest it is responsible for is still set. -/
theorem C01_cancel_completes_all (w w' : World) (k : Nat) (phase : Phase) (rest : List K) (r : Ret) (o : Obj)
    (hst : w.stack = .cancelCall k phase :: rest) (hg : getObj w k = some o) (hc : hasCancel o.kind = true)
    (hs : step w (.ret r) = some w') :
    (phase = .reads → o.evR = false) ∧ (phase ≠ .done → o.evW = false) := by
  unfold step at hs
  simp only [hst] at hs
  cases cancelStep_sound hs with
  | done hobj hnoread hnowrite =>
    rw [hg] at hobj; cases hobj
    constructor
    · intro hp
      cases hr : o.evR with
      | false => rfl
      | true => exact absurd ⟨hc, hr, hp⟩ hnoread
    · intro hp
      cases hw : o.evW with
      | false => rfl
      | true => exact absurd ⟨hc, hw, hp⟩ hnowrite

/-- The only results `Cancel` can deliver to a handler are the cancellation error or the error of the failed
de-registration. -/
theorem C01_cancel_result (w w' : World) (k : Nat) (phase : Phase) (rest : List K)
    (op : Nat) (res : Res) (n : Int) (data : List UInt8) (early : Bool)
    (hst : w.stack = .cancelCall k phase :: rest) (hs : step w (.enter op res n data early) = some w') :
    res = .cancelled ∨ res = .err := by
  unfold step at hs
  simp only [hst] at hs
  cases cancelStep_sound hs with
  | read _ _ _ _ _ hres => exact hres
  | write _ _ _ _ _ _ hres => exact hres

/-- **Close silences the object.** After `Close` neither interest of the object is registered and it is marked
closed, so the poller has no handler of the object to dispatch and a later start is answered immediately. -/
theorem C01_close_silences (w : World) (o : Obj) (hn : (ids w.objs).Nodup) (hg : getObj w o.id = some o)
    (hk : o.kind ≠ .timer) :
    ∃ o', getObj (closeObj w o) o.id = some o' ∧ o'.evR = false ∧ o'.evW = false ∧ o'.closed = true ∧ o'.registered = false := by
  unfold closeObj
  have hk' : (o.kind == ObjKind.timer) = false := by simpa using hk
  simp only [hk', Bool.false_eq_true, if_false]
  exact ⟨_, getObj_setObj _ hg rfl, rfl, rfl, rfl, rfl⟩

/-- A deferred start on a closed object is answered immediately (with end-of-file) and registers nothing. -/
theorem C01_start_on_closed_not_registered (w w' : World) (op k : Nat) (kind : OpKind) (rest : List K) (r : Ret) (o : Obj)
    (hst : w.stack = .startCall op k kind false :: rest) (hg : getObj w k = some o) (hc : o.closed = true) :
    step w (.ret r) = none := by
  unfold step
  simp only [hst, hg, hc]
  simp

theorem run_refs_init {evs : List Ev} {w : World} (x : Nat) (h : run {} evs = some w)
    (hnr : ∀ info, getOp w x = some info → info.kind ≠ .timerRep) :
    0 ≤ refs w x ∧ refs w x + enterCount x evs ≤ startCount x evs := by
  have h1 := run_refs x evs {} w h acct_init trivial hnr
  have h3 : refs ({} : World) x = 0 := rfl
  exact ⟨refs_nonneg w x, by omega⟩

/-- **C01 (at most once).** For every event history the loop model accepts — any set of objects on one IO context,
any order in which their descriptors become ready (any poll batches), any handler behaviour (re-issue, cancel, close,
re-arm itself or another object), inline or deferred completion — the completion callback of an operation that is
not a repeating timer is entered at most as many times as the program started an operation under that id: with
fresh ids (each id started at most once), **at most once**. Together with the correspondence check (every trace of
the real loop is a history the model accepts) this is the "never twice" half of the property. -/
theorem C01_at_most_once (evs : List Ev) (w : World) (x : Nat) (h : run {} evs = some w)
    (hnr : ∀ info, getOp w x = some info → info.kind ≠ .timerRep) (hfresh : startCount x evs ≤ 1) :
    enterCount x evs ≤ 1 := by
  have := run_refs_init x h hnr
  omega

/-- A callback that was never started is never entered. -/
theorem C01_no_callback_without_start (evs : List Ev) (w : World) (x : Nat) (h : run {} evs = some w)
    (hnr : ∀ info, getOp w x = some info → info.kind ≠ .timerRep) (hnone : startCount x evs = 0) :
    enterCount x evs = 0 := by
  have := run_refs_init x h hnr
  have := enterCount_nonneg x evs
  omega

/-- Once the callback has been entered, nothing in the model can still invoke it: no reference is left. -/
theorem C01_completed_leaves_no_reference (evs : List Ev) (w : World) (x : Nat) (h : run {} evs = some w)
    (hnr : ∀ info, getOp w x = some info → info.kind ≠ .timerRep) (hfresh : startCount x evs ≤ 1)
    (hdone : enterCount x evs = 1) : refs w x = 0 := by
  have := run_refs_init x h hnr
  omega

/-! Non-vacuity: a history with a deferred read completed by the poller, a write completing inline whose handler
cancels another read, and a post; every id is started once and entered once. -/
def demo : List Ev :=
  [.obj 1 .stream, .obj 2 .stream, .callStart 11 1 .read 8, .ret .plain, .callStart 12 2 .read 4, .ret .plain,
   .callPost 13, .ret (.err true), .callStart 14 1 .write 3, .enter 14 .ok 3 [] false, .callCancel 2,
   .enter 12 .cancelled 0 [] false, .exit 12, .ret .plain, .exit 14, .ret .plain,
   .callPoll, .enter 13 .post 0 [] false, .exit 13, .enter 11 .ok 5 [] false, .exit 11, .ret (.poll 2 .ok)]

example : (run {} demo).isSome = true := by decide
example : startCount 11 demo = 1 ∧ enterCount 11 demo = 1 ∧ startCount 12 demo = 1 ∧ enterCount 12 demo = 1 := by decide
-- and the model has no transition that would enter 11 a second time
example : (run {} (demo ++ [.callPoll, .enter 11 .ok 1 [] false])) = none := by decide

/-- **C01 (callbacks only when owed).** See `Sonic.Props.Ledger.C01_callback_only_when_owed`: in every history of the
model (documented usage), a completion callback is entered only inline in its own starting call or for an operation the
API-level ledger owes — never twice, never after Close, never after a successful Cancel. -/
theorem C01_callback_only_when_owed (evs : List Ev) (op : Nat) (res : Res) (n : Int) (data : List UInt8) (early : Bool)
    (w : World) (l : Sonic.Spec.Ledger.L) (h : run {} (evs ++ [.enter op res n data early]) = some w)
    (hU : Sonic.Spec.Ledger.UsageOk {} (evs ++ [.enter op res n data early])) (hl : Sonic.Spec.Ledger.run {} evs = some l) :
    (∃ r rest, (l.stack = .start r false :: rest ∨ l.stack = .sched r false :: rest) ∧ r.id = op) ∨
    (∃ r, r ∈ l.owed ∧ r.id = op) :=
  Sonic.Props.Ledger.C01_callback_only_when_owed evs op res n data early w l h hU hl

/-- **C01 / C03 (the model refines the ledger).** -/
theorem C01_ledger_accepts_model (evs : List Ev) (w : World) (h : run {} evs = some w) (hU : Sonic.Spec.Ledger.UsageOk {} evs) :
    Sonic.Spec.Ledger.accepts evs = true :=
  Sonic.Props.Ledger.ledger_accepts_model evs w h hU

end Sonic.Props.C01
