/-
C12 — UDP datagram boundaries, addressing and multicast membership.

Model: `Sonic.Model.Datagram` (packet.go, multicast/peer.go, multicast/reactor.go, net/ipv4/multicast*.go at API
granularity + the kernel's receive queues, option record and IGMPv3 source filters).  Monitor:
`Sonic.Spec.Datagram`.  Everything here quantifies over ALL scripts (`List Op`): any number of sockets of the three
kinds, any interleaving of sends, reads, buffer replacements, polls, setters (succeeding or failing), membership
calls (well-formed or not, succeeding or failing) and closes.  The only hypothesis, `OpOk`, is that a buffer handed to
a read is not empty (a zero-length buffer turns every datagram into the EOF case the property excludes).

What is NOT proven here and is carried by the correspondence check on the real kernel: that Linux's multicast
filtering and routing behave as the model says (RFC 3376 / net/ipv4/igmp.c as modelled).
-/
import Sonic.Lemmas.DatagramRefine

namespace Sonic.Props.C12
open Sonic.Spec.Datagram Sonic.Model.Datagram Sonic.Lemmas.Datagram

/-- Scripts the theorems are about: buffers handed to reads are non-empty. -/
def ScriptOk (ops : List Op) : Prop := ∀ op ∈ ops, OpOk op = true
instance (ops : List Op) : Decidable (ScriptOk ops) := by unfold ScriptOk; exact inferInstance

/-! ## The main refinement -/

/-- For every script, the property monitor accepts the whole trace of the model: every completed read carries
exactly one datagram that was queued to that socket and not read before (its bytes truncated to the buffer, its
length, its sender's address and port, in the buffer most recently designated); every write queues exactly one
datagram to exactly the sockets the destination and the memberships allow; no getter differs from the kernel record
except `Loop()` before the first successful `SetLoop`; and the coupling invariant holds at the end. -/
theorem C12_trace_accepted (ops : List Op) (hok : ScriptOk ops) :
    ∃ st, Sonic.Spec.Datagram.run Sonic.Spec.Datagram.init (Model.Datagram.run World.init ops) = .ok st
      ∧ R (runW World.init ops) st :=
  run_refines R.init ops hok

theorem C12_monitor_accepts (ops : List Op) (hok : ScriptOk ops) :
    accepts Sonic.Spec.Datagram.init (Model.Datagram.run World.init ops) = true := by
  obtain ⟨st, h, _⟩ := C12_trace_accepted ops hok
  simp [accepts, h]

/-- The coupling invariant holds in every reachable state (same statement, for an arbitrary prefix). -/
theorem C12_inv_reachable (ops : List Op) (hok : ScriptOk ops) : ∃ st, R (runW World.init ops) st := by
  obtain ⟨st, _, h⟩ := C12_trace_accepted ops hok
  exact ⟨st, h⟩

/-! ## One read per datagram -/

/-- One receive of the model, stated outright: it takes exactly the oldest queued datagram off the queue and reports
`n = min(len(datagram), len(buffer))`, the datagram's source address (for a non-empty datagram) and the datagram's
first `n` bytes in the buffer most recently designated; the read is no longer registered afterwards. -/
theorem C12_one_read_per_datagram {s : Nat} {m m' : MSock} {cur len : Nat} {ev : Ev} (hlen : 0 < len)
    (hc : ∃ pre, m.cands = pre ++ [(cur, len)]) (hinc : m.cands.Pairwise (fun a b => a.1 < b.1))
    (h : recv s m cur len = some (m', ev)) :
    ∃ d q, m.rxq = d :: q ∧ m'.rxq = q ∧ m'.read = none ∧
      ∃ err n src bufs, ev = .done s err n src bufs ∧ n = min d.data.length len ∧ bufs.lookup cur = some (d.data.take n)
        ∧ (d.data ≠ [] → err = .nil ∧ src = some d.src) := by
  cases hq : m.rxq with
  | nil => rw [recv_nil hq] at h; cases h
  | cons d q =>
    obtain ⟨err, src, he, hcase⟩ := recv_cons (s := s) (cur := cur) (len := len) hq
    rw [he] at h
    cases h
    obtain ⟨pre, hpre⟩ := hc
    refine ⟨d, q, rfl, rfl, rfl, err, _, src, _, rfl, rfl, lookup_shown m.cands pre cur len _ _ hpre hinc, fun hd => ?_⟩
    rcases hcase with ⟨hn, _⟩ | ⟨_, h1, h2⟩
    · exact absurd ((min_eq_zero_iff_nil hlen).1 hn) hd
    · exact ⟨h1, h2⟩

/-- … and across whole scripts: every completion in the trace of any script is matched by the monitor with exactly
one datagram delivered to that socket and not matched before (this is `C12_monitor_accepts`; the clause of the
monitor is `Spec.Datagram.step … (.done …)`), and after a poll no socket with a registered read still has a datagram
queued. -/
theorem C12_poll_leaves_nothing_completable (w : World) (st : S) (h : R w st) :
    ∀ s ∈ List.range maxSock, Drained (pollAll w (List.range maxSock)).1 s := by
  obtain ⟨_, _, _, hd, _⟩ := accept_pollAll h (List.range maxSock)
  exact hd

/-! ## One datagram per write -/

/-- One `sendto` of the model, stated outright.  If the kernel accepts it, exactly one datagram — the caller's bytes,
the given destination, the kernel's source address for this socket — is appended to the receive queue of exactly the
sockets in `arrived`, every other queue is untouched, and for a unicast destination at most one socket receives it.
If the kernel refuses it, nothing changes anywhere. -/
theorem C12_one_datagram_per_write (w : World) (s : Nat) (tx : MSock) (dsta : Addr) (data : List UInt8) (pick : Nat) :
    (sendErr tx.kern dsta data = .nil →
      ∃ arrived src, (sendTo w s tx dsta data pick).2 = [.sent s dsta data .nil data.length src arrived]
        ∧ (∀ r, ((sendTo w s tx dsta data pick).1.socks r).map (·.rxq)
            = (w.socks r).map fun m => if arrived.contains r then m.rxq ++ [{ src := src, dst := dsta, data := data }] else m.rxq)
        ∧ (isMulticast dsta.ip = false → arrived.length ≤ 1))
    ∧ (sendErr tx.kern dsta data ≠ .nil → (sendTo w s tx dsta data pick).1 = w
        ∧ ∃ src, (sendTo w s tx dsta data pick).2 = [.sent s dsta data (sendErr tx.kern dsta data) 0 src []]) := by
  constructor
  · intro herr
    unfold sendTo
    simp only [herr, bne_self_eq_false, Bool.false_eq_true, if_false]
    refine ⟨_, _, rfl, fun r => ?_, fun hm => ?_⟩
    · simp only [enqueue]
      cases w.socks r with
      | none => rfl
      | some m =>
        simp only [Option.map]
        congr 1
        split <;> (split <;> rfl)
    · simp only [hm, Bool.false_eq_true, if_false]
      rcases ucArrived_cases w dsta pick with ⟨h0, _⟩ | ⟨x, hx, _⟩
      · simp [h0]
      · simp [hx]
  · intro herr
    have hne : (sendErr tx.kern dsta data != Errc.nil) = true := by simpa using herr
    unfold sendTo
    simp only [hne, if_true]
    exact ⟨trivial, _, rfl⟩

/-! ## Getters equal the kernel's record -/

/-- A getters observation agrees with the kernel's record (local address, TTL, loopback, outbound interface). -/
def gettersOk : Ev → Bool
  | .getters _ api kern =>
      api.localAddr == kern.name && api.ttl == kern.ttl && api.loop == kern.loop && api.outIp == kern.mcIf
        && api.outIf.getD 0 == kern.mcIf
  | _ => true

/-- The same without the loopback clause. -/
def gettersOkButLoop : Ev → Bool
  | .getters _ api kern =>
      api.localAddr == kern.name && api.ttl == kern.ttl && api.outIp == kern.mcIf && api.outIf.getD 0 == kern.mcIf
  | _ => true

/-- The full statement: after any sequence of operations every getter equals the kernel record. -/
def C12_getters_eq_kernel : Prop :=
  ∀ ops : List Op, ScriptOk ops → (Model.Datagram.run World.init ops).all gettersOk = true

/-- It is false on this tree: a freshly constructed peer reports `Loop() = false` while the kernel has
`IP_MULTICAST_LOOP = 1` (`ipv4.GetMulticastLoop` returns true iff the option is 0). -/
theorem C12_getters_full_false : ¬ C12_getters_eq_kernel := by
  intro h
  have := h [.newPeer 0 0 true] (by decide)
  revert this
  decide

theorem getters_ok_of_step {st st' : S} {e : Ev} (h : Sonic.Spec.Datagram.step st e = .ok st') : gettersOkButLoop e = true := by
  cases e with
  | getters s api kern =>
    simp only [Sonic.Spec.Datagram.step] at h
    cases hs : st.socks s with
    | none => simp [hs] at h
    | some t =>
      simp only [hs] at h
      by_cases h1 : api.localAddr = kern.name
      · by_cases h2 : api.ttl = kern.ttl
        · by_cases h3 : api.outIp = kern.mcIf
          · by_cases h4 : api.outIf.getD 0 = kern.mcIf
            · simp [gettersOkButLoop, h1, h2, h3, h4]
            · simp [h1, h2, h3, h4] at h
          · simp [h1, h2, h3] at h
        · simp [h1, h2] at h
      · simp [h1] at h
  | _ => rfl

theorem getters_ok_of_run {tr : List Ev} {st st' : S} (h : Sonic.Spec.Datagram.run st tr = .ok st') :
    tr.all gettersOkButLoop = true := by
  induction tr generalizing st with
  | nil => rfl
  | cons e r ih =>
    simp only [Sonic.Spec.Datagram.run] at h
    cases hs : Sonic.Spec.Datagram.step st e with
    | error k => simp [hs] at h
    | ok st1 =>
      simp only [hs] at h
      simp only [List.all_cons, Bool.and_eq_true]
      exact ⟨getters_ok_of_step hs, ih h⟩

/-- What does hold, for every script: local address, TTL and outbound interface/address reported by the getters
always equal `getsockname` / `getsockopt`, after any sequence of setters, successful or failing; and the monitor —
which rejects a `Loop()` that differs from `IP_MULTICAST_LOOP` once a `SetLoop` has succeeded on that peer — accepts
the trace, recording nothing but the known deviation (`Loop()` before the first successful `SetLoop`). -/
theorem C12_getters_partial (ops : List Op) (hok : ScriptOk ops) :
    (Model.Datagram.run World.init ops).all gettersOkButLoop = true
    ∧ ∃ st, Sonic.Spec.Datagram.run Sonic.Spec.Datagram.init (Model.Datagram.run World.init ops) = .ok st
        ∧ ∀ n ∈ st.notes, n = "loop-getter-inverted" := by
  obtain ⟨st, hrun, hR⟩ := C12_trace_accepted ops hok
  exact ⟨getters_ok_of_run hrun, st, hrun, hR.notes⟩

/-- The same as an invariant of the reachable states of the model: the peer's cache equals the kernel record in
the address, TTL and outbound fields. -/
theorem C12_getters_cache_inv (ops : List Op) (hok : ScriptOk ops) (s : Nat) (m : MSock)
    (hm : (runW World.init ops).socks s = some m) (hk : m.kind = .peer) :
    m.cache.ttl = m.kern.ttl ∧ m.cache.localAddr = m.kern.name ∧ m.cache.outIp = m.kern.mcIf
      ∧ m.cache.outIf.getD 0 = m.kern.mcIf := by
  obtain ⟨st, hR⟩ := C12_inv_reachable ops hok
  obtain ⟨t, _, hr⟩ := hR.ofModel hm
  obtain ⟨a, b, c, d, _⟩ := hr.getters hk
  exact ⟨a, b, c, d⟩

/-! ## Delivery ↔ membership -/

/-- A membership script: well-formed calls; `reaches = false` marks a call that fails without reaching the kernel's
membership code (interface that cannot be resolved, descriptor that is not a socket). -/
def membRun : KMembs × Memb → List (MOp × Bool) → KMembs × Memb
  | x, [] => x
  | x, (op, reaches) :: r =>
    if reaches then membRun ((kMemb x.1 op).1, mstep x.2 op ((kMemb x.1 op).2 == .nil)) r
    else membRun (x.1, mstep x.2 op false) r

def membInit : KMembs × Memb := (fun _ => none, Memb.empty)

theorem membRun_R {x : KMembs × Memb} (h : MembR x.1 x.2) (sc : List (MOp × Bool)) :
    MembR (membRun x sc).1 (membRun x sc).2 := by
  induction sc generalizing x with
  | nil => exact h
  | cons c r ih =>
    obtain ⟨op, reaches⟩ := c
    simp only [membRun]
    by_cases hr : reaches = true
    · simp only [hr, if_true]; exact ih (kMemb_refines h op)
    · simp only [hr, Bool.false_eq_true, if_false]; exact ih (h.fail op)

/-- Over all membership scripts: what the kernel's per-socket filter (the model of `ip_mc_sf_allow`, with
`IP_MULTICAST_ALL = 0`) lets through was joined and not left, and its source passes the filter (not blocked /
source-joined). -/
theorem C12_delivery_only (sc : List (MOp × Bool)) (g src : Ip)
    (h : kAllow (membRun membInit sc).1 g src = true) : passes (membRun membInit sc).2 g src = true :=
  kAllow_sound (membRun_R MembR.init sc) g src h

/-- Over all membership scripts: delivered ↔ group joined, not since left, source passes the filter — provided the
last membership call for that group did not fail (Linux switches the filter mode of an any-source membership as a side
effect of a failing `IP_DROP_SOURCE_MEMBERSHIP`, after which nothing is delivered until the next successful call). -/
theorem C12_delivery (sc : List (MOp × Bool)) (g src : Ip) (hs : (membRun membInit sc).2.unsure g = false) :
    kAllow (membRun membInit sc).1 g src = passes (membRun membInit sc).2 g src :=
  kAllow_complete (membRun_R MembR.init sc) g src hs

/-- `passes` spelled out: the group has a live membership whose filter lets the source pass. -/
theorem passes_iff (a : Memb) (g src : Ip) :
    passes a g src = true ↔ ∃ f, a.filt g = some f ∧
      (match f with | .exclude l => src ∉ l | .include l => src ∈ l) := by
  unfold passes
  cases h : a.filt g with
  | none => simp
  | some f => cases f <;> simp

/-- Decision logic of the kernel model, stated outright. -/
theorem C12_join_delivers_all (k k' : KMembs) (g : Ip) (h : kMemb k (.join g) = (k', .nil)) (src : Ip) :
    kAllow k' g src = true := by
  simp only [kMemb, joinGroup] at h
  cases hk : k g with
  | some f => simp [hk] at h
  | none => simp [hk] at h; subst h; simp [kAllow, upd]

theorem C12_leave_stops_delivery (k k' : KMembs) (g : Ip) (h : kMemb k (.leave g) = (k', .nil)) (src : Ip) :
    kAllow k' g src = false := by
  simp only [kMemb, leaveGroup] at h
  cases hk : k g with
  | none => simp [hk] at h
  | some f => simp [hk] at h; subst h; simp [kAllow, upd]

theorem C12_block_stops_source (k k' : KMembs) (g s : Ip) (h : kMemb k (.block g s) = (k', .nil)) :
    kAllow k' g s = false := by
  simp only [kMemb, mcSource] at h
  cases hk : k g with
  | none => simp [hk] at h
  | some f =>
    simp only [hk, Bool.not_true, Bool.false_eq_true, if_false] at h
    split at h
    · simp at h
    · split at h
      · simp at h
      · simp only [Prod.mk.injEq, and_true] at h
        subst h
        simp [kAllow, upd]

/-! ## Non-vacuity -/

/-- A script that meets the hypothesis and exercises the clauses: two peers and a raw second-source sender, a
membership, a deferred read whose buffer is replaced, a multicast datagram truncated into the replacing buffer, a
blocked source, a unicast datagram, failing setters, `SetLoop`, a second read, close. -/
def demo : List Op :=
  [.newPeer 0 0 true, .newPeer 1 3221225986 false, .newRaw 2 .tx3,
   .join 0 (.ip 4009754625) none none, .read 0 4, .setBuf 0 2,
   .send 1 (.group 4009754625) [1, 2, 3] 0, .poll,
   .block 0 (.ip 4009754625) (.ip 3221225987), .send 2 (.group 4009754625) [9] 0, .send 1 (.sock 0) [7, 8] 0,
   .brk 0, .setTTL 0 9, .mend 0, .setLoop 0 true, .get 0, .read 0 1, .close 0]

example : ScriptOk demo := by decide

/-- The datagram of 3 bytes completes the deferred read with n = 2, sender 192.0.2.2:11, bytes `01 02` in the
replacing buffer 1 while buffer 0 keeps its fill pattern. -/
example : (Model.Datagram.run World.init demo).contains
    (.done 0 .nil 2 (some ⟨3221225986, 11⟩) [(0, prefill 0 2), (1, [1, 2])]) = true := by decide

/-- The blocked source's datagram reaches nobody; the unicast one reaches socket 0 only. -/
example : (Model.Datagram.run World.init demo).contains
    (.sent 2 ⟨4009754625, 1⟩ [9] .nil 1 ⟨3221225987, 12⟩ []) = true := by decide
example : (Model.Datagram.run World.init demo).contains
    (.sent 1 ⟨2130706433, 1⟩ [7, 8] .nil 2 ⟨3221225986, 11⟩ [0]) = true := by decide

/-- The monitor is not trivially accepting: the same completion with a wrong length, a wrong sender port, the
bytes in the stale buffer, or a delivery to a socket that never joined are rejected. -/
def pre : List Ev := (Model.Datagram.run World.init demo).take 10

example : accepts Sonic.Spec.Datagram.init (pre ++ [.done 0 .nil 2 (some ⟨3221225986, 11⟩) [(0, prefill 0 2), (1, [1, 2])]]) = true := by decide
example : accepts Sonic.Spec.Datagram.init (pre ++ [.done 0 .nil 3 (some ⟨3221225986, 11⟩) [(0, prefill 0 2), (1, [1, 2])]]) = false := by decide
example : accepts Sonic.Spec.Datagram.init (pre ++ [.done 0 .nil 2 (some ⟨3221225986, 12⟩) [(0, prefill 0 2), (1, [1, 2])]]) = false := by decide
example : accepts Sonic.Spec.Datagram.init (pre ++ [.done 0 .nil 2 (some ⟨3221225986, 11⟩) [(0, [1, 2]), (1, prefill 1 2)]]) = false := by decide
example : accepts Sonic.Spec.Datagram.init
    ((Model.Datagram.run World.init demo).take 6 ++ [.sent 1 ⟨4009754626, 1⟩ [5] .nil 1 ⟨3221225986, 11⟩ [0]]) = false := by decide
example : accepts Sonic.Spec.Datagram.init
    [.opened 0 ⟨0, 1⟩ ⟨true, 1, 0, false, ⟨0, 1⟩⟩, .getters 0 ⟨true, 7, none, 0, false, ⟨0, 1⟩⟩ ⟨true, 1, 0, false, ⟨0, 1⟩⟩] = false := by decide

end Sonic.Props.C12
