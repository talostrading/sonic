/-
C13 — No descriptor leaks, no foreign close, owners of in-flight operations stay alive.

Three layers.

1. **Path table** (`Sonic.Gen.Resources`, regenerated from the Go sources by `tools/respaths` on every run): every
   control-flow path of every constructor / connect / accept / handshake function and of every `Close` method, as a
   list of acquire / release events.  The theorems below quantify over *every path of every function in that table*
   and are closed by `decide`: the table is the quantifier's domain, so this is a proof about the extracted paths —
   deleting one `Close` from an error path, or a `closed` guard, changes the table and breaks them.
2. **Descriptor-table model** (`Sonic.Model.Resources`): objects with guarded `Close`, arbitrary kernel allocation;
   no close ever hits a descriptor the closing object does not own at that moment, for all interleavings of creation
   and repeated Close (unbounded induction).
3. **Registry invariant** over the loop model (`Sonic.Model.Loop`): an object with a registered interest is held by
   the IO registry in every reachable state (the garbage collector cannot free what epoll still points to).

Outside the theorems (checked on the real code by the `fds` harness component): which calls acquire or release is a
configured list; closing a live descriptor succeeds; the Go collector honours reachability.
-/
import Sonic.Lemmas.ResFds
import Sonic.Lemmas.ResRefine
import Sonic.Lemmas.LoopReg

namespace Sonic.Props.C13
open Sonic.Model.ResPath Sonic.Gen.Resources

/-! ## 1. The path table -/

/-- The single failure path in the table that returns a live descriptor *together with* the error:
`listener.accept` ends in `return conn, syscall.SetNonblock(conn.RawFd(), true)`, so if `SetNonblock` failed on the
connection just accepted the caller would get both the connection and the error (it can still close it). Not
provokable from outside; kept visible here instead of being hidden in the extractor. -/
def handedException (f : Func) (p : Path) : Bool :=
  p.term == .fail [0] && p.evs.getLast? == some (.step "syscall.SetNonblock" false) && f.name == "sonic.listener.accept"

/-- What `C13_no_leak` says about one path. -/
def noLeak (f : Func) (p : Path) : Bool :=
  !p.term.isFail || (p.balanced && (p.term.ids.isEmpty || handedException f p))

theorem forall_paths {fs : List Func} {q : Func → Path → Bool} (h : (fs.all fun f => f.paths.all (q f)) = true) :
    ∀ f ∈ fs, ∀ p ∈ f.paths, q f p = true :=
  fun f hf p hp => List.all_eq_true.1 (List.all_eq_true.1 h f hf) p hp

theorem balanced_iff (p : Path) :
    p.balanced = true ↔ ∃ live, run [] p.evs = some live ∧ sameSet live p.term.ids = true := by
  unfold Path.balanced
  cases run [] p.evs <;> simp

/-- **No leak on failure.** For every listed function and every path through it that ends in a failure return (any
step failed, including every `EMFILE` point and the ones that cannot be provoked from outside): the path never
releases something it does not hold, and when it returns every resource it acquired has been released — descriptors,
the temporary file's name, the memory mapping alike. (One named exception hands the descriptor to the caller.) -/
theorem C13_no_leak : ∀ f ∈ constructors, ∀ p ∈ f.paths, p.term.isFail = true →
    ∃ live, run [] p.evs = some live ∧ sameSet live p.term.ids = true ∧
      (p.term.ids = [] ∨ handedException f p = true) := by
  intro f hf p hp hfail
  have hp' := forall_paths (q := noLeak) (by decide +kernel) f hf p hp
  simp only [noLeak, hfail, Bool.not_true, Bool.false_or, Bool.and_eq_true, Bool.or_eq_true, List.isEmpty_iff] at hp'
  obtain ⟨live, hr, hs⟩ := (balanced_iff p).1 hp'.1
  exact ⟨live, hr, hs, hp'.2⟩

open Sonic.Model.Resources in
/-- **… the descriptor table afterwards equals the table before.** For every failure path that hands nothing to its
caller, and *every* set `T` of descriptors open beforehand: interpreting the path's descriptor events against `T` with
the kernel's lowest-free allocation succeeds and ends with exactly the descriptors of `T` open again (this includes
the k-th allocation failing with `EMFILE`, for every k: each acquisition has its own failure path in the table). -/
theorem C13_no_leak_table : ∀ f ∈ constructors, ∀ p ∈ f.paths, p.term = .fail [] → ∀ T : List Nat,
    ∃ T', runFds (T, []) p.evs = some (T', []) ∧ ∀ fd, fd ∈ T' ↔ fd ∈ T := by
  intro f hf p hp ht T
  obtain ⟨live, hrun, hsame, _⟩ := C13_no_leak f hf p hp (by rw [ht]; rfl)
  have hl : live = [] := by
    cases live with
    | nil => rfl
    | cons a r => rw [ht] at hsame; simp [sameSet, Term.ids] at hsame
  rw [hl] at hrun
  exact runFds_restores p.evs hrun T

open Sonic.Model.Resources in
/-- A successful `NewIO` on a table with holes takes the two lowest free numbers (non-vacuity of the table semantics). -/
example : runFds ([0, 1, 2, 4], []) [.acquire 0 .fd "syscall.EpollCreate1", .call 0 "internal.NewEventFd" [(1, .fd)]]
    = some ([5, 3, 0, 1, 2, 4], [(1, 5), (0, 3)]) := by decide +kernel

/-- The exception really is a single path of `listener.accept`. -/
theorem C13_handed_only_accept :
    ((constructors.flatMap fun f => f.paths.filter (fun p => p.term.isFail && !p.term.ids.isEmpty)).length = 1) := by decide +kernel

/-- **On success the object owns exactly what is left open.** Every ok-return leaves live precisely the resources
reachable from the returned values (or the receiver), and at least one. -/
theorem C13_ok_owns_exactly : ∀ f ∈ constructors, ∀ p ∈ f.paths, p.term.isFail = false →
    ∃ live, run [] p.evs = some live ∧ sameSet live p.term.ids = true ∧ p.term.ids ≠ [] := by
  intro f hf p hp hok
  have hp' := forall_paths (q := fun _ p => p.term.isFail || (p.balanced && !p.term.ids.isEmpty)) (by decide +kernel) f hf p hp
  simp only [hok, Bool.false_or, Bool.and_eq_true, Bool.not_eq_true', List.isEmpty_eq_false_iff] at hp'
  obtain ⟨live, hr, hs⟩ := (balanced_iff p).1 hp'.1
  exact ⟨live, hr, hs, hp'.2⟩

/-- **The interprocedural summaries are sound.** Whenever a path records "callee `g` succeeded and handed over
resources of classes `cs`", `g` is an earlier entry of the same table, has a success path, and *every* success path of
`g` owns resources of exactly those classes; a failed call contributes nothing, which is `C13_no_leak` for `g`. -/
theorem C13_calls_justified : ∀ i, ∀ f, constructors[i]? = some f → ∀ p ∈ f.paths, ∀ e ∈ p.evs,
    callJustified constructors i e = true := by
  have h : ((List.range constructors.length).all fun i =>
      match constructors[i]? with
      | some f => f.paths.all fun p => p.evs.all (callJustified constructors i)
      | none => false) = true := by decide +kernel
  intro i f hi p hp e he
  have hlt : i < constructors.length := by
    rcases Nat.lt_or_ge i constructors.length with h1 | h1
    · exact h1
    · rw [List.getElem?_eq_none h1] at hi; cases hi
  have h1 := List.all_eq_true.1 h i (List.mem_range.2 hlt)
  simp only [hi] at h1
  exact List.all_eq_true.1 (List.all_eq_true.1 h1 p hp) e he

/-- **Every configured function was translated** (nothing fell back to a hand-written step list, nothing was skipped),
and the table lists exactly the configured functions. -/
theorem C13_table_complete :
    untranslatable = [] ∧ (constructors.map (·.name) ++ closeOnce.map (·.name)) = configured ∧
    closeTwice.map (·.name) = closeOnce.map (·.name) ∧
    (constructors.all fun f => !f.paths.isEmpty) = true ∧ (closeOnce.all fun f => !f.paths.isEmpty) = true ∧
    (closeTwice.all fun f => !f.paths.isEmpty) = true := ⟨rfl, rfl, rfl, rfl, rfl, rfl⟩

theorem runs_to_nil {fs : List Func} (h : (fs.all fun f => f.paths.all fun p => run [] p.evs == some []) = true) :
    ∀ f ∈ fs, ∀ p ∈ f.paths, run [] p.evs = some [] :=
  fun f hf p hp => eq_of_beq (forall_paths h f hf p hp)

/-- **Close releases exactly what the object owns** (table form). Every path of every `Close` method, entered with the
object's descriptors (or mapping) live, releases each of them exactly once and nothing else, whatever it returns. -/
theorem C13_close_exact : ∀ f ∈ closeOnce, ∀ p ∈ f.paths, run [] p.evs = some [] :=
  runs_to_nil (by decide +kernel)

/-- **A second Close releases nothing** (table form): on every path of `Close(); Close()` no release hits a resource
that is no longer live — i.e. the closed flag (or `fd = -1`, `conn = nil`, `slice = nil`, the timer state) keeps the
stored descriptor number from being closed again after the kernel may have reused it. -/
theorem C13_close_twice_safe : ∀ f ∈ closeTwice, ∀ p ∈ f.paths, run [] p.evs = some [] :=
  runs_to_nil (by decide +kernel)

/-- The interpreter does reject a double release: the listener's `Close(); Close()` path as it was before the repair
a913e9d (no guard) is not accepted. -/
example : run [] [.acquire 0 .fd "owned at entry", .release 0 "syscall.Close", .mark "again", .release 0 "syscall.Close"] = none := by decide +kernel

/-- … and it does report a leak: `ConnectTCP` as it was before ee61305 (no Close when `connect` fails). -/
example : Path.balanced { evs := [.call 6 "internal.CreateSocketTCP" [(0, .fd)], .step "connect" false], term := .fail [], line := 0 } = false := by decide +kernel

/-- The table is not trivial: at least twenty functions with at least a hundred paths, at least ten Close methods. -/
example : 20 ≤ constructors.length ∧ 10 ≤ closeOnce.length ∧ 100 ≤ (constructors.flatMap (·.paths)).length := by decide +kernel

/-! ## 2. Close / create interleavings over the descriptor table -/

open Sonic.Model.Resources in
/-- **No foreign close.** For every interleaving — any list of operations, any object count, any descriptor numbers the
kernel chooses to hand out (lowest free or otherwise), any number of repeated `Close` calls — every `close(fd)` the
library issues targets a descriptor that the closing object owns at that moment. -/
theorem C13_no_foreign_close (ops : List Op) (w : World) (h : run true {} ops = some w) :
    ∀ e ∈ w.log, e.foreign = false := by
  intro e he
  have := (run_inv {} w ops inv_init h).log e he
  simp [CloseEv.foreign, this]

open Sonic.Model.Resources in
/-- **The property monitor accepts the model** (refinement): for every operation list the model can execute, the
sequence of observations a process would make of it (numbers handed to each new object, descriptors open after every
operation) is accepted by `Sonic.Spec.Resources`, the monitor the real library's traces are checked with. -/
theorem C13_model_accepted (ops : List Op) (tr : List (Sonic.Spec.Resources.Op × Sonic.Spec.Resources.Obs))
    (h : trace {} ops = some tr) : Sonic.Spec.Resources.accepts {} tr = true :=
  trace_accepted ops {} {} tr inv_init rfl h

/-- The monitor is not trivially accepting: the observation of the unrepaired listener (after `Close; new pipe; Close`
the pipe's descriptor 5 is gone) is rejected as a foreign close; so is a Close that leaves the object's descriptor open. -/
example : Sonic.Spec.Resources.accepts {} [(.new 1 "listener", .created [5] [5]), (.close 1, .closed []),
    (.new 2 "pipe", .created [5, 6] [5, 6]), (.close 1, .closed [6])] = false := by decide +kernel
example : (match Sonic.Spec.Resources.step { open_ := [(5, 1), (6, 2)] } (.close 1) (.closed [5, 6]) with
    | .error k => k == "close-not-exact" | .ok _ => false) = true := by decide +kernel
example : Sonic.Spec.Resources.accepts {} [(.new 1 "listener", .created [5] [5]), (.close 1, .closed []),
    (.new 2 "pipe", .created [5, 6] [5, 6]), (.close 1, .closed [5, 6]), (.close 2, .closed [])] = true := by decide +kernel

open Sonic.Model.Resources in
/-- **Close is exact** (model form): the first `Close` of an object removes precisely its descriptors from the table,
a later one changes nothing at all. -/
theorem C13_close_exact_model (w w' : World) (k : Nat) (o : Obj) (hg : getObj w k = some o)
    (h : step true w (.close k) = some w') :
    (o.closed = true → w' = w) ∧
    (o.closed = false → ∀ fd a, (fd, a) ∈ w'.table ↔ ((fd, a) ∈ w.table ∧ fd ∉ o.fds)) := by
  obtain ⟨o', hg', hcases⟩ := step_close_cases h
  cases hg.symm.trans hg'
  obtain ⟨hcl, rfl⟩ | ⟨hop, rfl⟩ := hcases
  · exact ⟨fun _ => rfl, fun hc => (nomatch hcl.symm.trans hc)⟩
  · refine ⟨fun hc => (nomatch hop.symm.trans hc), fun _ fd a => ?_⟩
    simp only [List.mem_filter, Bool.not_eq_true', List.contains_eq_mem, decide_eq_false_iff_not]

open Sonic.Model.Resources in
/-- Without the guard (the code before a913e9d / ace3dfc) the same model exhibits the defect: listener 1 is closed, a
pipe (object 2) receives the freed number 5, the listener is closed again — and closes the pipe's descriptor. -/
theorem C13_unguarded_closes_foreign :
    ∃ w, run false {} [.new 1 [5], .close 1, .new 2 [5, 6], .close 1] = some w ∧ w.log.any (·.foreign) = true ∧
      isOpen w 5 = false :=
  ⟨_, rfl, by decide, by decide⟩

open Sonic.Model.Resources in
/-- The same script under the guard: the pipe keeps both descriptors. -/
example : (run true {} [.new 1 [5], .close 1, .new 2 [5, 6], .close 1, .close 1]).map (fun w => (isOpen w 5, isOpen w 6, w.log.length))
    = some (true, true, 1) := by decide +kernel

open Sonic.Model.Resources in
/-- **The kernel's policy is an instance**: the lowest free number is not open (so `Op.new` with lowest-free numbers is
always possible) and every smaller number is in use. -/
theorem C13_lowest_free (used : List Nat) :
    used.contains (lowestFree used) = false ∧ ∀ i, i < lowestFree used → used.contains i = true :=
  ⟨lowestFree_not_mem used, lowestFree_least used⟩

open Sonic.Model.Resources in
example : lowestFree [0, 1, 2, 5, 3, 7] = 4 ∧ allocN [0, 1, 2, 4] 3 = [3, 5, 6] := by decide +kernel

/-! ## 3. Owners of in-flight operations stay registered -/

open Sonic.Model.Loop in
/-- **Registered while interested.** In every state the event loop model can reach, by any history of API calls,
completions, cancellations, closes, polls, timers and posts, every stream / file / adapter / listener / packet
connection that still has a read or write interest registered with the poller (epoll holds a raw pointer to its slot)
is held by the IO registry — in particular after *one* of its two directions completed. Hence the owner of an
operation in flight is reachable, and the collector cannot free it, until the completion has been delivered. -/
theorem C13_registered_while_interested (evs : List Sonic.Spec.Loop.Ev) (w : World) (h : run {} evs = some w) :
    ∀ o ∈ w.objs, o.kind ≠ .timer → (o.evR || o.evW) = true → o.registered = true :=
  fun o hm => run_reg {} w evs regInv_init h o hm

open Sonic.Model.Loop Sonic.Spec.Loop in
/-- Non-vacuity: a deferred read and a deferred write on one connection, the write completes (poll dispatch), the read
is still in flight — interest and registry entry are both there. -/
example : (Sonic.Model.Loop.run {} [.obj 1 .stream, .callSetDisp 32, .ret .plain,
      .callStart 7 1 .read 4, .ret .plain, .callStart 8 1 .write 4, .ret .plain,
      .callSetDisp 0, .ret .plain, .callPoll, .enter 8 .ok 4 [] false]).map
      (fun w => w.objs.map fun o => (o.evR, o.evW, o.registered)) = some [(true, false, true)] := by decide +kernel

/-- The invariant is not a tautology of the model's vocabulary: an object record with an interest and no registry
entry — what `onWrite` produced before the repair 3b1c672 — violates it. -/
example : ¬ Sonic.Model.Loop.RegOk { id := 1, kind := .stream, evR := true, registered := false } := by
  intro h; exact absurd (h (by decide) (by decide)) (by decide)

end Sonic.Props.C13
