/-
C05 — Post is thread-safe, exactly-once, ordered and wakes the loop.

Over the interleaving model `Sonic.Model.Post` (any number of posting threads, the loop thread, handlers that post
again; every interleaving of their atomic steps), whose step order inside `Post` and `dispatch` is checked below
against the statement order extracted from internal/poll_linux.go on every run, and over the access table
extracted from the same file.  What a theorem cannot exhibit — a data race in the binary, the Go memory model,
`sync.Mutex` itself — is assumed; the stress harness (`harness post direct`, also built with `-race` in the thorough
tier) searches for a failing schedule.
-/
import Sonic.Lemmas.PostInv
import Sonic.Gen.PostAccess

namespace Sonic.Props.C05
open Sonic.Model.Post

variable {nested : H → List H} {progs : Nat → List H}

/-- **Exactly once, in order.** In every reachable state, the handlers already started, then the loop's local
batch, then the queue are exactly the handlers appended so far, in the order they were appended: none is lost,
none is duplicated, and execution follows posting order (globally, hence per posting goroutine). -/
theorem C05_exactly_once_in_order {s : St} (h : Reach nested progs s) :
    s.executed ++ s.batch ++ s.posts = s.postedLog := (reach_inv h).fifo

theorem C05_executed_is_prefix {s : St} (h : Reach nested progs s) : s.executed <+: s.postedLog :=
  ⟨s.batch ++ s.posts, by rw [← List.append_assoc]; exact C05_exactly_once_in_order h⟩

/-- Once the queue has drained, every posted handler has been executed, exactly in posting order. -/
theorem C05_all_executed_when_drained {s : St} (h : Reach nested progs s) (hp : s.posts = []) (hb : s.batch = []) :
    s.executed = s.postedLog := by
  have := C05_exactly_once_in_order h
  rw [hp, hb] at this; simpa using this

/-- **Handlers run on the loop thread only.** A step of a posting thread never starts a handler. -/
theorem C05_on_loop_thread {s s' : St} (i : Nat) (h : step nested s (some i) = some s') : s'.executed = s.executed := by
  rw [step_poster_eq, Option.map_eq_some_iff] at h
  obtain ⟨⟨s1, p'⟩, hp, rfl⟩ := h
  rcases posterStep_cases hp with ⟨_, _, _, _, _, rfl, _⟩ | ⟨_, rfl, _⟩ | ⟨_, rfl, _⟩ | ⟨_, rfl, _⟩ <;> rfl

/-- **No lost wake-up.** If the loop is blocked waiting with nothing signalled on the eventfd, and no thread is between
its append and its eventfd write, then the queue is empty. -/
theorem C05_no_lost_wakeup {s : St} (h : Reach nested progs s) (hw : s.lpc = .waiting) (hc : s.counter = 0)
    (hq : ∀ i, ¬ sigP (s.posters i)) : s.posts = [] := by
  by_cases hne : s.posts = []
  · exact hne
  · rcases (reach_inv h).wake_posters hne (Or.inl hw) with h1 | ⟨i, hi⟩
    · omega
    · exact absurd hi (hq i)

/-- **The mutex is held only for non-blocking sections**, by at most one thread, and never while a handler runs
(so a handler can Post): the loop holds it exactly in `swapping`/`unlocking`, or while it performs the locked part of a
nested Post. -/
theorem C05_mutex_discipline {s : St} (h : Reach nested progs s) :
    (∀ i, holdsP (s.posters i) ↔ s.holder = some (some i)) ∧
    ((s.lpc = .swapping ∨ s.lpc = .unlocking ∨ (s.lpc = .inHandler ∧ holdsP s.nest)) ↔ s.holder = some none) :=
  ⟨(reach_inv h).mutexP, (reach_inv h).mutexL⟩

/-- **No deadlock.** If no thread at all can take a step, then there is nothing left to do: every posting thread has
finished, the loop is waiting with an empty queue, and every posted handler has been executed. In particular `Post`
from inside a handler never blocks the loop against itself. -/
theorem C05_no_deadlock {s : St} (h : Reach nested progs s) (hstuck : ∀ t, step nested s t = none) :
    s.lpc = .waiting ∧ s.counter = 0 ∧ s.posts = [] ∧ s.batch = [] ∧ s.executed = s.postedLog ∧
    (∀ i, (s.posters i).pc = .idle ∧ (s.posters i).todo = []) :=
  stuck_of_inv (reach_inv h) hstuck

/-- **Pending() / Posted() are exact.** The pending count contributed by posts is: queued + taken but not started +
the one currently running; `Posted()` (the queue length, read under the lock) is the first summand. When the loop
is idle both are the number of handlers posted and not yet run. -/
theorem C05_pending_exact {s : St} (h : Reach nested progs s) :
    s.pending = s.posts.length + s.batch.length + (if s.lpc = .inHandler ∨ s.lpc = .decrementing then 1 else 0) :=
  (reach_inv h).pend

theorem C05_pending_zero_when_done {s : St} (h : Reach nested progs s) (hw : s.lpc = .waiting) (hp : s.posts = []) :
    s.pending = 0 := by
  have := C05_pending_exact h
  rw [hw, hp, (reach_inv h).batchEmpty (Or.inl hw)] at this
  simpa using this

/-! ### Tie to the source: access table and statement order, regenerated on every run -/

open Sonic.Gen.PostAccess in
/-- **Race freedom of the access table.** Any two accesses to the same field of the poller, at least one of them a
write, are either both made through `sync/atomic` or both made with `lck` held. -/
theorem C05_race_free :
    ∀ a ∈ table, ∀ b ∈ table, a.field = b.field → (a.write = true ∨ b.write = true) →
      (a.atomic = true ∧ b.atomic = true) ∨ (a.locked = true ∧ b.locked = true) := by
  decide +kernel

open Sonic.Gen.PostAccess in
/-- The model's step order inside `Post` and `dispatch` is the source's statement order. -/
theorem C05_source_order :
    seqPost = ["lock", "append:posts", "atomic-inc:pending", "unlock", "wake"] ∧
    seqDispatch = ["loop{", "drain", "}", "lock", "take:posts", "clear:posts", "unlock", "range{", "run",
                   "atomic-dec:pending", "}"] ∧
    seqPosted = ["lock", "defer-unlock"] ∧ seqPending = ["atomic-load:pending"] :=
  ⟨rfl, rfl, rfl, rfl⟩

/-! Non-vacuity: a concrete interleaving — poster 0 posts handler 7 (which posts 8 when run), the loop wakes, runs 7,
the nested Post of 8 happens on the loop thread, the loop goes round again and runs 8 — is reachable and ends with
everything executed in order. -/
def demoNested : H → List H := fun h => if h = 7 then [8] else []
def demoProgs : Nat → List H := fun i => if i = 0 then [7] else []
def demoSchedule : List (Option Nat) :=
  [some 0, some 0, some 0, some 0,                 -- Post(7): lock, append, unlock, wake
   none, none, none, none, none, none,             -- loop: wake, drain, lock, swap, unlock, run 7
   none, none, none, none,                         -- nested Post(8) on the loop thread
   none, none,                                     -- handler done, pending--
   none,                                           -- batch empty: back to waiting
   none, none, none, none, none, none, none, none, none]  -- second round: run 8

def runSchedule (s : St) : List (Option Nat) → Option St
  | [] => some s
  | t :: r => match step demoNested s t with
    | some s' => runSchedule s' r
    | none => none

example : (runSchedule (init demoProgs) demoSchedule).map (fun s => (s.executed, s.postedLog, s.pending, s.posts)) =
    some ([7, 8], [7, 8], 0, []) := by decide +kernel

end Sonic.Props.C05
