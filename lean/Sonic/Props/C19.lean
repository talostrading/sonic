/-
C19 — Codec connection framing is independent of transport segmentation.

Model: `Sonic.Model.FrameCodec` (codec.go `CodecConn`, codec/frame/frame.go, the `ByteBuffer` methods they
use, a scripted transport).  Monitor: `Sonic.Spec.FrameCodec` (a pure parser of `len32be ++ payload`
sequences plus the bytes still owed to the peer).  All theorems quantify over every script, every
segmentation, every capacity the runtime may choose when a buffer grows (`env`), and every limit.
-/
import Sonic.Lemmas.FrameCodecRefine

namespace Sonic.Props.C19
open Sonic.Spec.FrameCodec Sonic.Model.FrameCodec Sonic.Lemmas.FrameCodec

/-! ## Refinement: every trace of the model is accepted by the frame-stream monitor -/

theorem run_accepted {limit : Nat} {c : Conn} {s : S} (ops : List (Op × List Nat)) (hR : R limit c s) :
    accepts s (run limit c ops) = true := by
  induction ops generalizing c s with
  | nil => rfl
  | cons x r ih =>
    obtain ⟨op, env⟩ := x
    obtain ⟨s', h1, h2⟩ := step_refines limit c s op env hR
    simp only [run, accepts, h1]
    exact ih h2

/-- **C19 (main theorem).** For every limit, every script of feed / eof / plan / defer / ReadNext /
AsyncReadNext / WriteNext / AsyncWriteNext / pump operations (any order, any segment contents and sizes —
so any splitting or coalescing, also inside the 4-byte prefix, would-block in mid-item in both directions,
hostile bytes) and every capacity the runtime picks when a buffer grows, everything the connection
answers is accepted by the monitor: each read returns exactly the next payload of the concatenated
input, one per call, or reports would-block / pending / EOF only when no complete item is buffered;
an over-limit prefix is rejected with the source buffer's capacity unchanged; nothing panics or spins;
the peer receives exactly the frames of the written items in order, and a write that reports success
leaves the destination buffer empty. -/
theorem C19_trace_accepted (limit : Nat) (ops : List (Op × List Nat)) :
    accepts (init limit initialCap) (run limit Conn.new ops) = true :=
  run_accepted ops (R_init limit)

/-- The coupling (hence the buffer invariants) holds in every reachable state. -/
theorem reachable (limit : Nat) (ops : List (Op × List Nat)) :
    ∀ c s, R limit c s → ∃ s', R limit (runState limit c ops) s' := by
  induction ops with
  | nil => intro c s h; exact ⟨s, h⟩
  | cons x r ih =>
    intro c s h
    obtain ⟨op, env⟩ := x
    obtain ⟨s', _, h2⟩ := step_refines limit c s op env h
    exact ih _ s' h2

/-! ## The round trip, spelled out -/

/-- **Round trip.** Any payload sequence (each payload from empty up to the limit) written with blocking
`WriteNext` calls under any partial-write plan reaches the peer as `wire ps`; and however those bytes are
cut into transport segments (`segs`, arbitrary, including cuts inside the length prefix, or everything
coalesced) and whatever capacities the buffer grows to, `ReadNext` returns the same payloads, byte for
byte, one per call.  `hlim`: the limit is a length the four-byte prefix can hold (`4294967296` = 2^32). -/
theorem C19_roundtrip (limit : Nat) (hlim : limit < 4294967296) (ps : List Bytes) (hps : ∀ p ∈ ps, p.length ≤ limit)
    (plan : List Nat) (hplan : ∀ k ∈ plan, k ≠ 0) (slacks : List Nat)
    (segs : List Bytes) (envs : List (List Nat))
    (hsegs : segs.flatten = sent (writeMany limit slacks { Conn.new with tr := { plan := plan } } ps)) :
    readMany limit envs ps.length (fed segs) = ps.map .item := by
  have hw := (writeMany_spec limit ps slacks { Conn.new with tr := { plan := plan } } ⟨rfl, rfl, rfl, hplan⟩ hps).1
  obtain ⟨f1, f2, f3, f4⟩ := fed_spec limit segs
  rw [readMany_spec envs f1 f2, f3, f4, hsegs, hw]
  have := specReads_wire limit false hlim ps [] hps
  rwa [List.append_nil] at this

/-- **Segmentation independence, for arbitrary (also hostile) input.** What a sequence of `ReadNext` calls
returns depends only on the concatenation of the segments — not on where they are cut, nor on the
capacities chosen when the buffer grows. -/
theorem C19_segmentation_independent (limit : Nat) (segs₁ segs₂ : List Bytes) (envs₁ envs₂ : List (List Nat)) (n : Nat)
    (h : segs₁.flatten = segs₂.flatten) :
    readMany limit envs₁ n (fed segs₁) = readMany limit envs₂ n (fed segs₂) := by
  obtain ⟨f1, f2, f3, f4⟩ := fed_spec limit segs₁
  obtain ⟨g1, g2, g3, g4⟩ := fed_spec limit segs₂
  rw [readMany_spec envs₁ f1 f2, readMany_spec envs₂ g1 g2, f3, g3, f4, g4, h]

/-! ## The clauses of the property, stated outright -/

/-- **Overflow rejected before any buffering.** In every reachable state with no read pending, if the bytes not
yet returned as items (buffered or still queued in the transport, `unparsed`) start with a prefix declaring more
than the limit, `ReadNext` / `AsyncReadNext` report `toobig`, and the capacity of the source buffer is what
it was: `Reserve` was not called with the declared length. -/
theorem C19_overflow_rejected (limit : Nat) (ops : List (Op × List Nat)) (async : Bool) (env : List Nat)
    (hrp : (runState limit Conn.new ops).rpend = false)
    (hbig : front limit (unparsed (runState limit Conn.new ops)) = .tooBig) :
    (readNext limit async env (runState limit Conn.new ops)).2.stat = .err .toobig ∧
    (readNext limit async env (runState limit Conn.new ops)).1.src.cap = (runState limit Conn.new ops).src.cap := by
  obtain ⟨s, hR⟩ := reachable limit ops _ _ (R_init limit)
  obtain ⟨c', st, e, hout⟩ := readNext_spec limit async env _ hR.1.inv hrp
  obtain ⟨h1, _, h3, _⟩ := hout.big hbig
  rw [e]; exact ⟨h1, h3⟩

/-- An observation that reports a panic or the endless loop of a zero-length read buffer. -/
def Bad : Obs → Prop
  | .r o => o.stat = .panic ∨ o.stat = .stuck
  | .w o => o.stat = .panic
  | .wr w r => w.stat = .panic ∨ r.stat = .panic ∨ r.stat = .stuck
  | .ok => False

def wpart : Obs → Option WObs
  | .w o => some o
  | .wr w _ => some w
  | _ => none

theorem accepts_mem {s : S} {tr : List (Op × Obs)} (h : accepts s tr = true) :
    ∀ x ∈ tr, ∃ s1 s2, Spec.FrameCodec.step s1 x.1 x.2 = some s2 := by
  induction tr generalizing s with
  | nil => intro x hx; cases hx
  | cons y r ih =>
    intro x hx
    simp only [accepts] at h
    cases hy : Spec.FrameCodec.step s y.1 y.2 with
    | none => rw [hy] at h; cases h
    | some s' =>
      rw [hy] at h
      rcases List.mem_cons.mp hx with rfl | hx
      · exact ⟨s, s', hy⟩
      · exact ih h x hx

theorem readDone_not_bad {s s' : S} {a : Bool} {o : RObs} (h : readDone s a o = some s') :
    ¬ (o.stat = .panic ∨ o.stat = .stuck) := by
  unfold readDone at h
  rintro (hc | hc) <;> rw [hc] at h <;> cases h

theorem writeDone_clause {s s' : S} {exp : Bytes} {n : Nat} {o : WObs} (h : writeDone s exp n o = some s')
    (he : o.err = .nil) : o.rlen = 0 ∧ o.wlen = 0 := by
  unfold writeDone at h
  by_cases hc : o.out.isPrefixOf exp = true ∧ o.n = n ∧ (o.err = .nil ∨ o.err = .wouldblock) ∧
      (o.err = .nil → o.out = exp ∧ o.rlen = 0 ∧ o.wlen = 0)
  · exact (hc.2.2.2 he).2
  · rw [if_neg hc] at h; cases h

theorem step_r_ok {s s' : S} {op : Op} {o : RObs} (h : Spec.FrameCodec.step s op (.r o) = some s') :
    ¬ (o.stat = .panic ∨ o.stat = .stuck) := by
  cases op with
  | read | aread =>
    simp only [Spec.FrameCodec.step] at h
    by_cases hb : o.stat = .busy
    · rw [hb]; exact fun hc => hc.elim nofun nofun
    · rw [if_neg hb] at h
      by_cases hp : s.rpend = true
      · rw [if_pos hp] at h; cases h
      · rw [if_neg hp] at h; exact readDone_not_bad h
  | _ => cases h

theorem step_w_ok {s s' : S} {op : Op} {o : WObs} (h : Spec.FrameCodec.step s op (.w o) = some s') :
    o.stat ≠ .panic ∧ (o.stat = .done → o.err = .nil → o.rlen = 0 ∧ o.wlen = 0) := by
  cases op with
  | write p | awrite p =>
    simp only [Spec.FrameCodec.step] at h
    refine ⟨fun hp => ?_, fun hd he => ?_⟩
    · simp only [hp, reduceCtorEq] at h
    · -- a completed call without error: no write was pending, the payload was within the limit
      simp only [hd, he, reduceCtorEq, false_and, if_false, if_true] at h
      split at h
      · cases h
      · split at h
        · cases h
        · exact writeDone_clause h he
  | _ => cases h

theorem step_wr_ok {s s' : S} {op : Op} {w : WObs} {r : RObs} (h : Spec.FrameCodec.step s op (.wr w r) = some s') :
    (w.stat ≠ .panic ∧ (w.stat = .done → w.err = .nil → w.rlen = 0 ∧ w.wlen = 0)) ∧
    ¬ (r.stat = .panic ∨ r.stat = .stuck) := by
  cases op with
  | pump =>
    simp only [Spec.FrameCodec.step] at h
    cases h1 : onPumpWrite s w with
    | none => rw [h1] at h; cases h
    | some s1 =>
      rw [h1] at h
      change onPumpRead s1 r = some s' at h
      unfold onPumpWrite at h1
      unfold onPumpRead at h
      refine ⟨⟨fun hp => ?_, fun hd he => ?_⟩, fun hb => ?_⟩
      · simp only [hp, reduceCtorEq] at h1
      · split at h1
        · rename_i e _; rw [hd] at e; cases e
        · rename_i e _; rw [hd] at e; cases e
        · rw [if_pos he] at h1; exact writeDone_clause h1 he
        · cases h1
      · split at h
        · rename_i hn; exact hb.elim (fun e => by rw [e] at hn; cases hn) (fun e => by rw [e] at hn; cases hn)
        · by_cases hp : s1.rpend = true
          · rw [if_pos hp] at h; exact readDone_not_bad h hb
          · rw [if_neg hp] at h; cases h
  | _ => cases h

theorem step_not_bad {s s' : S} {op : Op} {ob : Obs} (h : Spec.FrameCodec.step s op ob = some s') : ¬ Bad ob := by
  cases ob with
  | ok => exact id
  | r o => exact step_r_ok h
  | w o => exact (step_w_ok h).1
  | wr w r => exact fun hb => hb.elim (step_wr_ok h).1.1 (step_wr_ok h).2

theorem step_nothing_left {s s' : S} {op : Op} {ob : Obs} {o : WObs} (h : Spec.FrameCodec.step s op ob = some s')
    (hw : wpart ob = some o) (hd : o.stat = .done) (he : o.err = .nil) : o.rlen = 0 ∧ o.wlen = 0 := by
  cases ob with
  | ok => cases hw
  | r _ => cases hw
  | w o' => injection hw with hw; subst hw; exact (step_w_ok h).2 hd he
  | wr w r => injection hw with hw; subst hw; exact (step_wr_ok h).1.2 hd he

theorem run_clauses {limit : Nat} {c : Conn} {s : S} (ops : List (Op × List Nat)) (hR : R limit c s) :
    ∀ x ∈ run limit c ops, ¬ Bad x.2 ∧
      ∀ o, wpart x.2 = some o → o.stat = .done → o.err = .nil → o.rlen = 0 ∧ o.wlen = 0 := by
  intro x hx
  obtain ⟨s1, s2, h⟩ := accepts_mem (run_accepted ops hR) x hx
  exact ⟨step_not_bad h, fun _ => step_nothing_left h⟩

/-- **Totality.** Whatever bytes arrive, in whatever pieces, no call of the connection panics (slice bounds in
`Decode`/`Encode`) or spins on a zero-length read buffer: no observation of any script is `panic` or `stuck`. -/
theorem C19_total (limit : Nat) (ops : List (Op × List Nat)) :
    ∀ x ∈ run limit Conn.new ops, ¬ Bad x.2 :=
  fun x hx => (run_clauses ops (R_init limit) x hx).1

/-- **Nothing left behind.** Whenever `WriteNext` returns, or the callback of `AsyncWriteNext` is invoked, with a
nil error (`done`, `nil`), the destination buffer is empty: `ReadLen() = 0` and `WriteLen() = 0` — nothing of
the item (or of an earlier, partially written one) remains to be re-sent or interleaved with the next item. -/
theorem C19_nothing_left (limit : Nat) (ops : List (Op × List Nat)) :
    ∀ x ∈ run limit Conn.new ops, ∀ o, wpart x.2 = some o → o.stat = .done → o.err = .nil → o.rlen = 0 ∧ o.wlen = 0 :=
  fun x hx => (run_clauses ops (R_init limit) x hx).2

/-! ## Non-vacuity -/

-- the real limit satisfies the hypothesis of the round trip
example : maxPayloadLength < 4294967296 := by decide

-- a concrete round trip: two payloads written under a partial-write plan, cut inside the prefix, read back
example : readMany 100 [] 2 (fed [[0, 0], [0, 2, 7], [8, 0, 0, 0, 0]]) = [.item [7, 8], .item []] := by decide
example : sent (writeMany 100 [] { Conn.new with tr := { plan := [1, 3] } } [[7, 8], []]) = [0, 0, 0, 2, 7, 8, 0, 0, 0, 0] := by
  decide

-- a script that mixes both directions, would-block in mid-item and an asynchronous read is accepted …
example : accepts (init 100 512)
    (run 100 Conn.new [(.feed [0, 0], []), (.read, []), (.feed [0, 1, 7, 0], []), (.aread, []), (.aread, []),
      (.plan [2, 0], []), (.write [9], []), (.write [], []), (.feed [0, 0, 0], []), (.pump, []), (.read, [])]) = true := by
  decide

-- … and the monitor does reject wrong behaviour: a wrong payload byte, an item returned twice, a successful write
-- that left bytes behind (the defect repaired by 427e6d3), an over-limit prefix answered after buffering
example : Spec.FrameCodec.step { limit := 100, cap := 512, inb := [0, 0, 0, 1, 7] } .read
    (.r { stat := .item [8], cap := 512, rlen := 1, wlen := 0 }) = none := by decide
example : accepts { limit := 100, cap := 512, inb := [0, 0, 0, 1, 7] }
    [(.read, .r { stat := .item [7], cap := 512, rlen := 1, wlen := 0 }),
     (.read, .r { stat := .item [7], cap := 512, rlen := 1, wlen := 0 })] = false := by decide
example : Spec.FrameCodec.step (init 100 512) (.write [1])
    (.w { stat := .done, n := 0, err := .nil, out := [], rlen := 0, wlen := 5 }) = none := by decide
example : Spec.FrameCodec.step { limit := 100, cap := 512, inb := [0, 0, 0, 101] } .read
    (.r { stat := .err .toobig, cap := 1024, rlen := 4, wlen := 0 }) = none := by decide

end Sonic.Props.C19
