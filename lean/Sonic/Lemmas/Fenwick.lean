/-
Correctness of the Fenwick tree of `util/fenwick_tree.go` as modelled in `Sonic.Model.Slots`: its
operations against an abstract array of cells, through the parity recurrences of `i | (i+1)` and `i & (i+1)`.
-/
import Sonic.Model.Slots

namespace Sonic.Lemmas.Fenwick
open Sonic.Model.Slots

theorem half_even (k : Nat) : 2 * k / 2 = k := Nat.mul_div_cancel_left k (by decide)
theorem half_odd (k : Nat) : (2 * k + 1) / 2 = k := Nat.mul_add_div (by decide) k 1
theorem half_odd_succ (k : Nat) : (2 * k + 1 + 1) / 2 = k + 1 := Nat.mul_add_div (by decide) k 2
theorem even_mod (k : Nat) : ¬ 2 * k % 2 = 1 := by rw [Nat.mul_mod_right]; decide
theorem odd_mod (k : Nat) : (2 * k + 1) % 2 = 1 := Nat.mul_add_mod 2 k 1
theorem odd_succ_mod (k : Nat) : ¬ (2 * k + 1 + 1) % 2 = 1 := by rw [Nat.add_assoc, Nat.mul_add_mod]; decide

/-! The four recurrences: `x = 2 * (x / 2) + x % 2`, where half and parity of `x ||| y` and `x &&& y`
are those of the operands combined. -/

theorem up_even (k : Nat) : up (2 * k) = 2 * k + 1 := by
  unfold up
  rw [← Nat.div_add_mod (2 * k ||| (2 * k + 1)) 2, Nat.or_div_two, half_even, half_odd, Nat.or_self,
    Nat.or_mod_two_eq_one.mpr (Or.inr (odd_mod k))]

theorem up_odd (k : Nat) : up (2 * k + 1) = 2 * up k + 1 := by
  unfold up
  rw [← Nat.div_add_mod (2 * k + 1 ||| (2 * k + 1 + 1)) 2, Nat.or_div_two, half_odd, half_odd_succ,
    Nat.or_mod_two_eq_one.mpr (Or.inl (odd_mod k))]

theorem down_even (k : Nat) : down (2 * k) = 2 * k := by
  unfold down
  rw [← Nat.div_add_mod (2 * k &&& (2 * k + 1)) 2, Nat.and_div_two, half_even, half_odd, Nat.and_self,
    Nat.mod_two_ne_one.mp fun h => even_mod k (Nat.and_mod_two_eq_one.mp h).1]
  rfl

theorem down_odd (k : Nat) : down (2 * k + 1) = 2 * down k := by
  unfold down
  rw [← Nat.div_add_mod (2 * k + 1 &&& (2 * k + 1 + 1)) 2, Nat.and_div_two, half_odd, half_odd_succ,
    Nat.mod_two_ne_one.mp fun h => odd_succ_mod k (Nat.and_mod_two_eq_one.mp h).2]
  rfl

theorem parity (i : Nat) : (∃ k, i = 2 * k) ∨ (∃ k, i = 2 * k + 1) := by
  have hi : i = 2 * (i / 2) + i % 2 := (Nat.div_add_mod i 2).symm
  rcases Nat.mod_two_eq_zero_or_one i with h | h
  · exact Or.inl ⟨i / 2, by rw [h] at hi; exact hi⟩
  · exact Or.inr ⟨i / 2, by rw [h] at hi; exact hi⟩

/-- The query loop terminates: it goes on at `(i & (i+1)) - 1`, and `i & (i+1) ≤ i`. -/
theorem down_le (i : Nat) : down i ≤ i := Nat.and_le_left

/-- The update loop's index strictly increases: `i < i | (i+1)`. -/
theorem lt_up (i : Nat) : i < up i := Nat.right_le_or

theorem even_le_even (a c : Nat) : 2 * a ≤ 2 * c ↔ a ≤ c := Nat.mul_le_mul_left_iff (by decide)
-- `2 * a ≤ 2 * c + 1` is `2 * a < 2 * (c + 1)`
theorem even_le_odd (a c : Nat) : 2 * a ≤ 2 * c + 1 ↔ a ≤ c :=
  Nat.lt_succ_iff.symm.trans ((Nat.mul_lt_mul_left (a := 2) (b := a) (c := c + 1) (by decide)).trans Nat.lt_succ_iff)
theorem odd_le_odd (a c : Nat) : 2 * a + 1 ≤ 2 * c + 1 ↔ a ≤ c := Nat.add_le_add_iff_right.trans (even_le_even a c)

/-- From inside the range `[down j, j]` of a cell the update chain stays inside it, from below the range it jumps
over it. -/
theorem cover_up (j : Nat) : ∀ i, j ≠ i → ((down j ≤ up i ∧ up i ≤ j) ↔ (down j ≤ i ∧ i ≤ j)) := by
  induction j using Nat.strongRecOn with
  | _ j ih =>
    intro i hne
    rcases parity j with ⟨b, rfl⟩ | ⟨b, rfl⟩
    · -- an even cell covers itself only, and `up i` is odd
      rw [down_even]
      refine iff_of_false (fun h => ?_) (fun h => hne (Nat.le_antisymm h.1 h.2))
      rcases parity i with ⟨c, rfl⟩ | ⟨c, rfl⟩
      · rw [up_even] at h; omega
      · rw [up_odd] at h; omega
    · -- the odd cell `2 * b + 1` covers `2 * c` and `2 * c + 1` exactly when cell `b` covers `c`
      rw [down_odd]
      rcases parity i with ⟨c, rfl⟩ | ⟨c, rfl⟩
      · rw [up_even, even_le_odd, odd_le_odd, even_le_even, even_le_odd]
      · rw [up_odd, even_le_odd, odd_le_odd, even_le_odd, odd_le_odd]
        exact ih b (by omega) c (by omega)

def psum (a : Nat → Int) : Nat → Int
  | 0 => 0
  | k + 1 => psum a k + a k

def upd (a : Nat → Int) (i : Nat) (delta : Int) : Nat → Int := fun x => if x = i then a x + delta else a x

theorem psum_upd (a : Nat → Int) (i : Nat) (delta : Int) (k : Nat) :
    psum (upd a i delta) k = psum a k + (if i < k then delta else 0) := by
  induction k with
  | zero => rw [if_neg (Nat.not_lt_zero i)]; rfl
  | succ k ih =>
    show psum (upd a i delta) k + (if k = i then a k + delta else a k) = psum a k + a k + _
    rw [ih]
    rcases Nat.lt_trichotomy i k with h | rfl | h
    · rw [if_pos h, if_neg (Nat.ne_of_gt h), if_pos (Nat.lt_succ_of_lt h)]; exact Int.add_right_comm ..
    · rw [if_neg (Nat.lt_irrefl _), if_pos rfl, if_pos (Nat.lt_succ_self _), Int.add_zero, Int.add_assoc]
    · rw [if_neg (Nat.lt_asymm h), if_neg (Nat.ne_of_lt h), if_neg (Nat.not_lt.mpr h), Int.add_zero, Int.add_zero]

theorem psum_zero (k : Nat) : psum (fun _ => 0) k = 0 := by
  induction k with
  | zero => rfl
  | succ k ih => simp [psum, ih]

theorem psum_mono (a : Nat → Int) (h : ∀ x, 0 ≤ a x) {k l : Nat} (hkl : k ≤ l) : psum a k ≤ psum a l := by
  induction hkl with
  | refl => exact Int.le_refl _
  | step _ ih => exact Int.le_trans ih (Int.le_add_of_nonneg_right (h _))

theorem psum_nonneg (a : Nat → Int) (h : ∀ x, 0 ≤ a x) (k : Nat) : 0 ≤ psum a k :=
  psum_mono a h (Nat.zero_le k)

theorem psum_const (a : Nat → Int) (y : Nat) (h : ∀ x, y ≤ x → a x = 0) {z : Nat} (hz : y ≤ z) : psum a z = psum a y := by
  induction hz with
  | refl => rfl
  | step hm ih =>
    show psum a _ + a _ = _
    rw [ih, h _ hm, Int.add_zero]

/-- The tree invariant: cell `j` holds the sum of the cells `[down j, j]`. -/
def Fen (d : Tree) (a : Nat → Int) : Prop :=
  ∀ j, j < d.length → d.getD j 0 = psum a (j + 1) - psum a (down j)

theorem fen_zeros (n : Nat) : Fen (List.replicate n 0) (fun _ => 0) := by
  intro j hj
  rw [List.length_replicate] at hj
  simp [psum_zero, List.getD_eq_getElem?_getD, hj]

theorem fen_new (n : Int) : Fen (Tree.new n) (fun _ => 0) := fen_zeros _

theorem fen_reset (d : Tree) : Fen d.reset (fun _ => 0) := fen_zeros _

theorem reset_length (d : Tree) : d.reset.length = d.length := by simp [Tree.reset]
theorem new_length (n : Int) : (Tree.new n).length = n.toNat := by simp [Tree.new]

theorem sumLoop_spec {d : Tree} {a : Nat → Int} (hf : Fen d a) :
    ∀ fuel i acc, i < fuel → i < d.length → sumLoop fuel d i acc = acc + psum a (i + 1) := by
  intro fuel
  induction fuel with
  | zero => intro i acc h; exact absurd h (Nat.not_lt_zero i)
  | succ fuel ih =>
    intro i acc h1 h2
    simp only [sumLoop]
    rw [hf i h2]
    cases hk : down i with
    | zero => rw [if_pos rfl]; exact congrArg _ (Int.sub_zero _)
    | succ k =>
      -- the loop goes on at `k = down i - 1 < i`
      have hki : k + 1 ≤ i := hk ▸ down_le i
      rw [if_neg (Nat.succ_ne_zero k), Nat.add_sub_cancel,
        ih k _ (Nat.lt_of_lt_of_le hki (Nat.le_of_lt_succ h1)) (Nat.lt_trans hki h2), Int.add_assoc, Int.sub_add_cancel]

/-- `sumUntil i` is the prefix sum up to and including `i`; the fuel `i + 1` of the loop suffices. -/
theorem sumUntil_spec {d : Tree} {a : Nat → Int} (hf : Fen d a) (i : Nat) (hi : i < d.length) :
    d.sumUntil (i : Int) = psum a (i + 1) := by
  unfold Tree.sumUntil
  rw [if_neg (by omega)]
  simp only [Int.toNat_natCast]
  rw [sumLoop_spec hf _ _ _ (by omega) hi]; omega

theorem sum_spec {d : Tree} {a : Nat → Int} (hf : Fen d a) : d.sum = psum a d.length := by
  unfold Tree.sum
  cases hl : d.length with
  | zero => rfl
  | succ k =>
    show d.sumUntil ((k : Int) + 1 - 1) = _
    rw [Int.add_sub_cancel, sumUntil_spec hf k (hl ▸ Nat.lt_succ_self k)]

theorem addLoop_length (delta : Int) : ∀ fuel (d : Tree) i, (addLoop fuel d i delta).length = d.length := by
  intro fuel
  induction fuel with
  | zero => intro d i; rfl
  | succ fuel ih =>
    intro d i
    simp only [addLoop]
    split
    · rw [ih]; simp
    · rfl

theorem add_length (d : Tree) (i : Nat) (delta : Int) : (d.add i delta).length = d.length := addLoop_length _ _ _ _

/-- What the update loop does to every cell: `delta` is added to exactly the cells whose range
contains `i` (given enough fuel: the index strictly increases, so `len - i` iterations suffice). -/
theorem addLoop_getD (delta : Int) : ∀ fuel (d : Tree) i, d.length ≤ fuel + i → ∀ j, j < d.length →
    (addLoop fuel d i delta).getD j 0 = d.getD j 0 + (if down j ≤ i ∧ i ≤ j then delta else 0) := by
  intro fuel
  induction fuel with
  | zero =>
    intro d i h j hj
    have hji : ¬ i ≤ j := by omega
    simp only [addLoop]
    rw [if_neg (fun hc => hji hc.2), Int.add_zero]
  | succ fuel ih =>
    intro d i h j hj
    simp only [addLoop]
    by_cases hi : i < d.length
    · rw [if_pos hi]
      have hlt := lt_up i
      rw [ih _ _ (by rw [List.length_set]; omega) j (by rw [List.length_set]; exact hj)]
      by_cases hji : j = i
      · subst hji
        rw [if_neg (fun hc => Nat.not_le.mpr hlt hc.2), if_pos ⟨down_le j, Nat.le_refl _⟩]
        simp [List.getD_eq_getElem?_getD, hi]
      · have hset : (d.set i (d.getD i 0 + delta)).getD j 0 = d.getD j 0 := by
          simp only [List.getD_eq_getElem?_getD, List.getElem?_set]
          rw [if_neg (Ne.symm hji)]
        rw [hset]
        simp only [cover_up j i hji]
    · have hji : ¬ i ≤ j := by omega
      rw [if_neg hi, if_neg (fun hc => hji hc.2), Int.add_zero]

theorem fen_add {d : Tree} {a : Nat → Int} (hf : Fen d a) (i : Nat) (delta : Int) :
    Fen (d.add i delta) (upd a i delta) := by
  intro j hj
  rw [add_length] at hj
  unfold Tree.add
  rw [addLoop_getD delta _ d i (Nat.le_add_right ..) j hj, hf j hj, psum_upd, psum_upd]
  have hd := down_le j
  -- `i` lies behind the cell's range, inside it, or in front of it
  by_cases h1 : i ≤ j
  · by_cases h2 : down j ≤ i
    · rw [if_pos ⟨h2, h1⟩, if_pos (Nat.lt_succ_of_le h1), if_neg (Nat.not_lt.mpr h2)]; omega
    · rw [if_neg (fun h => h2 h.1), if_pos (Nat.lt_succ_of_le h1), if_pos (Nat.lt_of_not_le h2)]; omega
  · rw [if_neg (fun h => h1 h.2), if_neg (fun h => h1 (Nat.le_of_lt_succ h)),
      if_neg (fun h => h1 (Nat.le_trans (Nat.le_of_lt h) hd))]
    omega

theorem addLoop_zero : ∀ fuel (d : Tree) i, addLoop fuel d i 0 = d := by
  intro fuel
  induction fuel with
  | zero => intro d i; rfl
  | succ fuel ih =>
    intro d i
    simp only [addLoop]
    by_cases h : i < d.length
    · rw [if_pos h, Int.add_zero, List.getD_eq_getElem?_getD, List.getElem?_eq_getElem h, Option.getD_some,
        List.set_getElem_self, ih]
    · rw [if_neg h]

theorem add_zero (d : Tree) (i : Nat) : d.add i 0 = d := addLoop_zero _ _ _

theorem at_spec {d : Tree} {a : Nat → Int} (hf : Fen d a) (i : Nat) (hi : i < d.length) : d.at (i : Int) = a i := by
  unfold Tree.at Tree.sumRange
  rw [sumUntil_spec hf i hi]
  cases i with
  | zero => simp [Tree.sumUntil, psum]
  | succ k =>
    show psum a (k + 1) + a (k + 1) - d.sumUntil ((k : Int) + 1 - 1) = _
    rw [Int.add_sub_cancel, sumUntil_spec hf k (Nat.lt_of_succ_lt hi), Int.add_comm, Int.add_sub_cancel]

theorem clear_spec (d : Tree) (a : Nat → Int) (hf : Fen d a) (i : Nat) (hi : i < d.length) :
    (d.clear i).2 = a i ∧ Fen (d.clear i).1 (upd a i (-(a i))) := by
  unfold Tree.clear
  rw [at_spec hf i hi]
  exact ⟨rfl, fen_add hf i _⟩

def applyAdds (d : Tree) : List (Nat × Int) → Tree
  | [] => d
  | p :: r => applyAdds (d.add p.1 p.2) r

def addsTo (a : Nat → Int) : List (Nat × Int) → Nat → Int
  | [] => a
  | p :: r => addsTo (upd a p.1 p.2) r

theorem fen_applyAdds (adds : List (Nat × Int)) : ∀ (d : Tree) (a : Nat → Int), Fen d a →
    Fen (applyAdds d adds) (addsTo a adds) ∧ (applyAdds d adds).length = d.length := by
  induction adds with
  | nil => intro d a h; exact ⟨h, rfl⟩
  | cons p r ih =>
    intro d a h
    have := ih (d.add p.1 p.2) (upd a p.1 p.2) (fen_add h p.1 p.2)
    exact ⟨this.1, by show (applyAdds (d.add p.1 p.2) r).length = _; rw [this.2, add_length]⟩

theorem addsTo_eq (adds : List (Nat × Int)) : ∀ (a : Nat → Int) (x : Nat),
    addsTo a adds x = a x + ((adds.filter (fun p => p.1 == x)).map (·.2)).sum := by
  induction adds with
  | nil => intro a x; exact (Int.add_zero _).symm
  | cons p r ih =>
    intro a x
    show addsTo (upd a p.1 p.2) r x = _
    rw [ih, List.filter_cons]
    unfold upd
    by_cases h : x = p.1
    · rw [if_pos h, if_pos (beq_iff_eq.mpr h.symm), List.map_cons, List.sum_cons, Int.add_assoc]
    · rw [if_neg h, if_neg (fun e => h (beq_iff_eq.mp e).symm)]

theorem fen_applyAdds_new (n : Nat) (adds : List (Nat × Int)) :
    Fen (applyAdds (Tree.new n) adds) (fun x => ((adds.filter (fun p => p.1 == x)).map (·.2)).sum) ∧
    (applyAdds (Tree.new n) adds).length = n := by
  obtain ⟨hf, hl⟩ := fen_applyAdds adds (Tree.new n) (fun _ => 0) (fen_new n)
  rw [show addsTo (fun _ => 0) adds = fun x => ((adds.filter (fun p => p.1 == x)).map (·.2)).sum from
    funext fun x => by rw [addsTo_eq, Int.zero_add]] at hf
  exact ⟨hf, by rw [hl, new_length, Int.toNat_natCast]⟩

end Sonic.Lemmas.Fenwick
