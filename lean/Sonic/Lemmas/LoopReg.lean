/-
Per-object invariant of the loop model for the IO registry (property C13, GC reachability): an object other than a
timer that has a registered interest (`evR || evW`, i.e. epoll holds a raw pointer to its slot) is held by the IO
registry (`registered`), so its owner stays reachable for the garbage collector until the completion was delivered.
Timers are kept alive by `IO.pendingTimers`, not by the registry.
-/
import Sonic.Lemmas.LoopInv
import Sonic.Lemmas.LoopStep

namespace Sonic.Model.Loop
open Sonic.Spec.Loop (Ev Ret Res OpKind ObjKind maxDispatch)

def RegOk (o : Obj) : Prop := o.kind ≠ .timer → (o.evR || o.evW) = true → o.registered = true

def RegInv (w : World) : Prop := ∀ o ∈ w.objs, RegOk o

theorem regOk_timer {o : Obj} (h : o.kind = .timer) : RegOk o := fun hk => absurd h hk

theorem regOk_registered {o : Obj} (h : o.registered = true) : RegOk o := fun _ _ => h

theorem regOk_idle {o : Obj} (hr : o.evR = false) (hw : o.evW = false) : RegOk o := by
  intro _ h; rw [hr, hw] at h; cases h

theorem setRead_reg {w : World} {o : Obj} {op : Nat} (hI : RegInv w) : RegInv (setRead w o op) := by
  unfold setRead
  split <;> exact forall_setObj hI (regOk_registered rfl)

theorem setWrite_reg {w : World} {o : Obj} {op : Nat} (hI : RegInv w) : RegInv (setWrite w o op) := by
  unfold setWrite
  split <;> exact forall_setObj hI (regOk_registered rfl)

/-- `DelRead` + `Deregister`: the registry entry survives exactly when the write interest does. -/
theorem delRead_reg {w : World} {o : Obj} (hI : RegInv w) : RegInv (delRead w o) := by
  unfold delRead; split
  · exact forall_setObj hI fun _ h => by simpa using h
  · exact hI

theorem delWrite_reg {w : World} {o : Obj} (hI : RegInv w) : RegInv (delWrite w o) := by
  unfold delWrite; split
  · exact forall_setObj hI fun _ h => by simpa using h
  · exact hI

theorem armTimer_reg {w : World} {o : Obj} {op : Nat} {rep : Bool} (hI : RegInv w) (hk : o.kind = .timer) :
    RegInv (armTimer w o op rep) := by
  unfold armTimer
  exact forall_setObj (by split <;> exact hI) (regOk_timer hk)

theorem closeObj_reg {w : World} {o : Obj} (hI : RegInv w) : RegInv (closeObj w o) := by
  unfold closeObj
  split
  · rename_i hk
    exact forall_setObj hI (regOk_timer (by simpa using hk))
  · exact forall_setObj hI (regOk_idle rfl rfl)

/-- **The registry invariant is preserved by every transition of the loop model.** Only `setRead`/`setWrite`
(which register), `delRead`/`delWrite` (which keep the entry while the other direction is set), `Close` (which
clears both interests) and updates of timers touch an object. -/
theorem step_reg (w w' : World) (e : Ev) (hI : RegInv w) (h : step w e = some w') : RegInv w' := by
  cases step_sound h with
  | newObj hstk hfresh =>
    intro o hm
    rcases List.mem_cons.1 hm with rfl | hm
    · exact regOk_idle rfl rfl
    · exact hI o hm
  | exit hstk hrule =>
    cases hrule with
    | timerStop hobj hkind hcancel => exact forall_setObj hI (regOk_timer hkind)
    | timerRearm hobj hkind => exact armTimer_reg hI hkind
    | _ => exact hI
  | cancel hstk hrule =>
    cases hrule with
    | read => exact delRead_reg hI
    | write => exact delWrite_reg hI
    | done => exact hI
  | poll hstk hrule =>
    cases hrule with
    | post => exact hI
    | timer hop hkind hobj hokind => exact forall_setObj hI (regOk_timer hokind)
    | read => exact delRead_reg hI
    | write => exact delWrite_reg hI
  | deferRead => exact setRead_reg hI
  | deferWrite => exact setWrite_reg hI
  | close => exact closeObj_reg hI
  | schedNow hstk hobj honce hzero hready hkind => exact forall_setObj hI (regOk_timer hkind)
  | arm hstk hobj hpos hready hkind => exact armTimer_reg hI hkind
  | tcancel hstk hobj hkind => exact forall_setObj hI (regOk_timer hkind)
  | _ => exact hI

theorem run_reg (w w' : World) (es : List Ev) (hI : RegInv w) (h : run w es = some w') : RegInv w' :=
  run_invariant step_reg hI h

theorem regInv_init : RegInv ({} : World) := by intro o hm; cases hm

end Sonic.Model.Loop
