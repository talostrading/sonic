/-
The read path handles a frame (`onFrame`): what `handleFrame` queues is what the monitor will note when the frame is
handed to the application (`outcome`), and the coupling invariant is kept (`sim_onframe`).
-/
import Sonic.Lemmas.WsAsyncObsRel

namespace Sonic.Model.WsAsyncObs
open Sonic.Model.WsAsync
open Sonic.Spec.WsStream (Bytes StreamState replyCode closeCodeOf u16 isViolation controlOp reservedOp)
open Sonic.Spec.WsAsync (Cb Ev Kind Want WireFrame findCb setCb enterPush failW addW entered deliver replyFor pattern)

section HandleOutcome
variable {ws : WsState} {n : Nat} {f : InFrame}

/-- a frame that `verifyFrame` or `handleControlFrame` rejects, or whose opcode is reserved -/
theorem handleOutcome_err (h : f.viol = true ∨ (f.op.isControl = true ∧ (!f.fin || decide (f.len > 125)) = true) ∨
      f.op = .reserved) :
    handleOutcome ws n f = (.closedByUs, if ws = .active then [⟨.closeViolation n, 8⟩] else [], true) := by
  unfold handleOutcome
  by_cases hv : f.viol = true
  · simp [hv]
  · rcases h with h | ⟨h1, h2⟩ | h
    · exact absurd h hv
    · simp [hv, h1, h2]
    · simp [hv, h, InOp.isControl]

theorem handleOutcome_plain (hv : f.viol = false)
    (h : (f.op.isControl = false ∧ f.op ≠ .reserved) ∨ (f.op = .pong ∧ (!f.fin || decide (f.len > 125)) = false)) :
    handleOutcome ws n f = (ws, [], false) := by
  unfold handleOutcome
  rcases h with ⟨h1, h2⟩ | ⟨h1, h2⟩
  · simp [hv, h1, h2]
  · simp [hv, h1, h2, InOp.isControl]

theorem handleOutcome_ping (hv : f.viol = false) (ho : f.op = .ping) (hb : (!f.fin || decide (f.len > 125)) = false) :
    handleOutcome ws n f = (ws, if ws = .active then [⟨.pong n, 6 + f.len⟩] else [], false) := by
  unfold handleOutcome
  simp [hv, ho, hb, InOp.isControl]

theorem handleOutcome_close (hv : f.viol = false) (ho : f.op = .close) (hb : (!f.fin || decide (f.len > 125)) = false) :
    handleOutcome ws n f = (match ws with
      | .active => (.closedByPeer, [⟨.closeReply n, if f.len ≥ 2 && f.closeOk then 6 + f.len else 8⟩], false)
      | .closedByUs => (.closeAcked, [], false)
      | _ => (ws, [], false)) := by
  unfold handleOutcome
  cases ws <;> simp [hv, ho, hb, InOp.isControl]

end HandleOutcome

/-- What `handleFrame` does with the peer's frame `g` (stream state `ws`, `n`-th frame), against the monitor's rules. -/
structure Outcome (ws : WsState) (n : Nat) (g : CFrame) : Prop where
  failed : (handleOutcome ws n (absFrame g)).2.2 = isViolation g
  wants : ((handleOutcome ws n (absFrame g)).2.1).map (fun fr => (conc none (some g) fr).want) =
            if isViolation g then failW true (stOf ws) .closedByUs .proto else (replyFor (stOf ws) g).toList
  mat : ∀ fr ∈ (handleOutcome ws n (absFrame g)).2.1, (conc none (some g) fr).want.matches (conc none (some g) fr).wf = true
  wsV : isViolation g = true → (handleOutcome ws n (absFrame g)).1 = .closedByUs
  wsOk : isViolation g = false → (handleOutcome ws n (absFrame g)).1 ≠ .terminated
  data : isViolation g = false → controlOp g.op = false →
    (handleOutcome ws n (absFrame g)).1 = ws ∧ (handleOutcome ws n (absFrame g)).2.1 = []
  ctl : isViolation g = false → (absFrame g).op.isControl = controlOp g.op
  ctlShape : isViolation g = false → controlOp g.op = true → g.fin = true ∧ g.rsv = 0 ∧ g.masked = false

theorem outcome_bad {ws : WsState} {n : Nat} {g : CFrame} (hws : ws = .active ∨ ws = .closedByUs)
    (hho : handleOutcome ws n (absFrame g) = (.closedByUs, if ws = .active then [⟨.closeViolation n, 8⟩] else [], true))
    (hv : isViolation g = true) : Outcome ws n g := by
  constructor
  · rw [hho, hv]
  · rw [hho, hv]
    rcases hws with rfl | rfl <;> simp [failW, stOf, conc, subClose]
  · rw [hho]
    intro fr hfr
    rcases hws with rfl | rfl
    · simp at hfr; subst hfr; exact matches_close 1002 [] (by simp)
    · simp at hfr
  · intro _; rw [hho]
  · intro h; rw [hv] at h; cases h
  · intro h; rw [hv] at h; cases h
  · intro h; rw [hv] at h; cases h
  · intro h; rw [hv] at h; cases h

/-- a frame that is accepted and answered by nothing (data frames, Pongs) -/
theorem outcome_plain {ws : WsState} {n : Nat} {g : CFrame} (hws : ws = .active ∨ ws = .closedByUs)
    (hho : handleOutcome ws n (absFrame g) = (ws, [], false)) (hv : isViolation g = false)
    (hnr : ∀ last, replyFor last g = none) (hctl : (absFrame g).op.isControl = controlOp g.op)
    (hshape : controlOp g.op = true → g.fin = true ∧ g.rsv = 0 ∧ g.masked = false) : Outcome ws n g := by
  constructor
  · rw [hho, hv]
  · rw [hho, hv, hnr]; rfl
  · rw [hho]; intro fr hfr; cases hfr
  · intro h; rw [hv] at h; cases h
  · intro _; rw [hho]; rcases hws with rfl | rfl <;> simp
  · intro _ _; rw [hho]; exact ⟨rfl, rfl⟩
  · intro _; exact hctl
  · intro _; exact hshape

theorem outcome_reply {ws : WsState} {n : Nat} {g : CFrame} (w1 : WsState) (q : List OutFrame)
    (hho : handleOutcome ws n (absFrame g) = (w1, q, false)) (hv : isViolation g = false) (hw1 : w1 ≠ .terminated)
    (hwants : q.map (fun fr => (conc none (some g) fr).want) = (replyFor (stOf ws) g).toList)
    (hmat : ∀ fr ∈ q, (conc none (some g) fr).want.matches (conc none (some g) fr).wf = true)
    (hc : controlOp g.op = true) (hctl : (absFrame g).op.isControl = true)
    (hshape : g.fin = true ∧ g.rsv = 0 ∧ g.masked = false) : Outcome ws n g := by
  constructor
  · rw [hho, hv]
  · rw [hho, hv]; exact hwants
  · rw [hho]; exact hmat
  · intro h; rw [hv] at h; cases h
  · intro _; rw [hho]; exact hw1
  · intro _ h; rw [hc] at h; cases h
  · intro _; rw [hctl, hc]
  · intro _ _; exact hshape

theorem outcome {ws : WsState} {n : Nat} {g : CFrame} (hcan : ws.canRead = true) : Outcome ws n g := by
  have hws : ws = .active ∨ ws = .closedByUs := by cases ws <;> simp [WsState.canRead] at hcan ⊢
  obtain ⟨fin, rsv, op, masked, payload⟩ := g
  by_cases hvb : (rsv != 0 || masked) = true
  · refine outcome_bad hws (handleOutcome_err (Or.inl hvb)) ?_
    simp only [isViolation]
    simp only [Bool.or_eq_true] at hvb ⊢
    rcases hvb with h | h
    · exact Or.inl (Or.inl (Or.inl h))
    · exact Or.inl (Or.inl (Or.inr h))
  have hrsv : rsv = 0 := by
    by_cases h : rsv = 0
    · exact h
    · exact absurd (by simp [h]) hvb
  have hmask : masked = false := by
    cases masked with
    | false => rfl
    | true => exact absurd (by simp) hvb
  subst hrsv hmask
  by_cases hdata : op = 0 ∨ op = 1 ∨ op = 2
  · -- data frames are accepted and answered by nothing
    rcases hdata with rfl | rfl | rfl <;>
      exact outcome_plain hws (handleOutcome_plain rfl (Or.inl ⟨rfl, nofun⟩)) (by simp [isViolation, reservedOp, controlOp])
        (fun last => by simp [replyFor, isViolation, reservedOp, controlOp]) rfl (fun h => by simp [controlOp] at h)
  by_cases hctl : op = 8 ∨ op = 9 ∨ op = 10
  · by_cases hcf : (!fin || decide (payload.length > 125)) = true
    · -- a fragmented or oversized control frame
      refine outcome_bad hws (handleOutcome_err (Or.inr (Or.inl ⟨?_, hcf⟩))) ?_
      · rcases hctl with rfl | rfl | rfl <;> rfl
      · simp only [Bool.or_eq_true, Bool.not_eq_true', decide_eq_true_eq] at hcf
        rcases hctl with rfl | rfl | rfl <;> rcases hcf with h | h <;> simp [isViolation, reservedOp, controlOp, h]
    · have hcf' : (!fin || decide (payload.length > 125)) = false := by simpa using hcf
      simp only [Bool.or_eq_true, Bool.not_eq_true', decide_eq_true_eq, not_or, Bool.not_eq_false, Nat.not_lt] at hcf
      obtain ⟨hfin, hlen⟩ := hcf
      subst hfin
      have hlen' : ¬ (125 < payload.length) := Nat.not_lt.2 hlen
      rcases hctl with rfl | rfl | rfl
      · -- Close: answered while active, acknowledged after our own Close
        have hv : isViolation ⟨true, 0, 8, false, payload⟩ = false := by simp [isViolation, reservedOp, controlOp, hlen']
        have hho := handleOutcome_close (ws := ws) (n := n) (f := absFrame ⟨true, 0, 8, false, payload⟩) rfl rfl hcf'
        rcases hws with rfl | rfl
        · refine outcome_reply .closedByPeer _ hho hv nofun ?_ ?_ rfl rfl ⟨rfl, rfl, rfl⟩
          · simp [conc, subClose, replyFor, hv, stOf, absFrame]
          · intro fr hfr
            simp only [List.mem_singleton] at hfr
            subst hfr
            simp only [conc, subClose]
            apply matches_close
            split
            · simp only [List.length_drop]; omega
            · simp
        · exact outcome_reply .closeAcked [] hho hv nofun (by simp [replyFor, stOf]) nofun rfl rfl ⟨rfl, rfl, rfl⟩
      · -- Ping: a Pong while active
        have hv : isViolation ⟨true, 0, 9, false, payload⟩ = false := by simp [isViolation, reservedOp, controlOp, hlen']
        have hho := handleOutcome_ping (ws := ws) (n := n) (f := absFrame ⟨true, 0, 9, false, payload⟩) rfl rfl hcf'
        rcases hws with rfl | rfl
        · refine outcome_reply .active _ hho hv nofun ?_ ?_ rfl rfl ⟨rfl, rfl, rfl⟩
          · simp [conc, subExact, replyFor, hv, stOf, absFrame]
          · intro fr hfr
            simp only [if_true, List.mem_singleton] at hfr
            subst hfr
            exact matches_exact ..
        · exact outcome_reply .closedByUs [] hho hv nofun (by simp [replyFor, stOf]) nofun rfl rfl ⟨rfl, rfl, rfl⟩
      · -- Pong
        exact outcome_plain hws (handleOutcome_plain rfl (Or.inr ⟨rfl, hcf'⟩)) (by simp [isViolation, reservedOp, controlOp, hlen'])
          (fun last => by simp [replyFor]) rfl (fun _ => ⟨rfl, rfl, rfl⟩)
  · -- a reserved opcode
    simp only [not_or] at hdata hctl
    have ho : opOf op = .reserved := by
      simp [opOf, hdata.1, hdata.2.1, hdata.2.2, hctl.1, hctl.2.1, hctl.2.2]
    refine outcome_bad hws (handleOutcome_err (Or.inr (Or.inr ho))) ?_
    simp only [isViolation, reservedOp, controlOp]
    simp
    omega

variable {max : Nat}

theorem Outcome.ws_ne {ws : WsState} {n : Nat} {g : CFrame} (O : Outcome ws n g) :
    (handleOutcome ws n (absFrame g)).1 ≠ .terminated := by
  cases hv : isViolation g with
  | true => rw [O.wsV hv]; nofun
  | false => exact O.wsOk hv

theorem eta_ctl {g : CFrame} (h : g.fin = true ∧ g.rsv = 0 ∧ g.masked = false) :
    ({ fin := true, rsv := 0, op := g.op, masked := false, payload := g.payload } : CFrame) = g := by
  obtain ⟨fin, rsv, op, masked, payload⟩ := g
  obtain ⟨h1, h2, h3⟩ := h
  simp only at h1 h2 h3
  subst h1 h2 h3
  rfl

theorem locs_handle {s0 : St} {f : InFrame} {p : CbId × LK} (hp : p ∈ locs (handleFrame s0 f).1) : p ∈ locs s0 := hp

theorem failW_same (b : Bool) (st : StreamState) (res : SRes) : failW b st st res = [] := by
  cases b <;> cases st <;> rfl

theorem enterPush_read_ok (last st : StreamState) (f : CFrame) : enterPush .read last st .ok (some f) = (replyFor last f).toList := by
  simp [enterPush, failW]

theorem took_eq {s s' : St} {news : List OutFrame} (o : Ob) (g : CFrame) (e : s'.submitted = s.submitted ++ news) :
    took s s' o g = (match s'.stack with
      | .again .. :: _ => { o with sub := o.sub ++ news.map (conc none (some g)), held := o.held ++ [g], cur := none }
      | _ => { o with sub := o.sub ++ news.map (conc none (some g)), cur := some g }) := by
  unfold took
  rw [grow_app o none (some g) e]
  rfl

/-- **The read path handles a frame**: the coupling is kept; the frames `handleFrame` queues are exactly the obligations the
monitor will note when the frame is handed over. -/
theorem sim_onframe {s0 : St} {o0 : Ob} {m : MS} {g : CFrame} {cb : CbId} {rk : RKind}
    (h0 : Coup max s0 o0 m [g]) (hns : Calm s0.stack) (hlast : m.last = stOf s0.ws)
    (hcan : s0.ws.canRead = true) (hkind : compat (kindOf o0 cb) rk.lk)
    (hreader : ∃ b, o0.reader = some (cb, b) ∧ (rk.lk = .f → b = false) ∧ (rk.lk = .m → b = true))
    (hrd0 : s0.rd = none) :
    Coup max (onFrame true s0 cb rk (absFrame g)) (took s0 (onFrame true s0 cb rk (absFrame g)) o0 g) m [] := by
  have O : Outcome s0.ws s0.rx g := outcome hcan
  have hws0 : s0.ws ≠ .terminated := by intro e; rw [e] at hcan; cases hcan
  have hfail : (handleFrame s0 (absFrame g)).2 = isViolation g := O.failed
  obtain ⟨b, hb, hbf, hbm⟩ := hreader
  -- `handleFrame` followed by scheduling `tops`: what `coup_onframe` asks that does not depend on the outcome
  have handled := fun (tops : List Task) (held' : List CFrame) (cur' : Option CFrame)
      (hlocs : ∀ p ∈ tops.flatMap taskK, p = (cb, LK.r) ∨ p = (cb, rk.lk)) =>
    coup_onframe (s' := push (handleFrame s0 (absFrame g)).1 tops) h0 hns (handleOutcome s0.ws s0.rx (absFrame g)).2.1 tops
      held' cur' rfl hrd0 (fun p hp => (locs_push.1 hp).elim (fun h => Or.inr (hlocs p h)) Or.inl)
      hkind ⟨b, hb, hbf, hbm⟩ O.mat hws0
  have entry : ∀ (r : Res) (hpend : _) (hwin : _),
      Coup max (push (handleFrame s0 (absFrame g)).1 [.invoke cb r true])
        (took s0 (push (handleFrame s0 (absFrame g)).1 [.invoke cb r true]) o0 g) m [] := fun r hpend hwin => by
    rw [took_eq (news := (handleOutcome s0.ws s0.rx (absFrame g)).2.1) o0 g rfl]
    exact handled [.invoke cb r true] o0.held (some g) (fun p hp => Or.inl (List.mem_singleton.1 hp))
      (Or.inl ⟨r, rfl⟩) rfl h0.heldOk (fun hr => (h0.rdr4 hr).1) (Or.inr rfl) hpend hwin
  cases rk with
  | frame =>
    have hk : kindOf o0 cb = .read := hkind
    have hheld0 : o0.held = [] := (h0.rdr4 (fun cb' e => by rw [hb, hbf rfl] at e; cases e)).1
    show Coup max (push (handleFrame s0 (absFrame g)).1 [.invoke cb (if (handleFrame s0 (absFrame g)).2 then .proto else .ok) true]) _ m []
    rw [hfail]
    refine entry _ ?_ ⟨?_, ?_, fun _ => ⟨hheld0, fun _ => ⟨g, rfl, O.ws_ne⟩⟩, fun e => ?_⟩
    · -- what is pending for the monitor is what `handleFrame` queued
      rw [pendW_invoke rfl, O.wants]
      show enterPush (kindOf o0 cb) m.last _ _ (if kindOf o0 cb == Kind.read then some g else none) = _
      rw [hk, hlast]
      cases hv : isViolation g with
      | true =>
        show enterPush .read _ (stOf (handleOutcome s0.ws s0.rx (absFrame g)).1) .proto (some g) = _
        rw [O.wsV hv]
        rfl
      | false => exact enterPush_read_ok ..
    · cases isViolation g <;> nofun
    · cases isViolation g <;> nofun
    · exact absurd (hk.symm.trans e) nofun
  | message room cont =>
    have hk : kindOf o0 cb = .readMsg := hkind
    have hr4 : (∀ cb', o0.reader ≠ some (cb', true)) → False := fun hr => hr cb (by rw [hb, hbm rfl])
    have hwinMsg : ∀ (s' : St) (o' : Ob) (r : Res) (rest : List Task), s'.stack = .invoke cb r true :: rest →
        kindOf o' cb = .readMsg → r ≠ .cancelled → r ≠ .eof →
        (r = .ok → ∃ g', o'.cur = some g' ∧ g'.fin = true ∧ controlOp g'.op = false ∧ s'.ws ≠ .terminated) → Window s' o' m := by
      intro s' o' r rest hst hk' h1 h2 h3
      unfold Window
      rw [hst]
      exact ⟨h1, (fun e => absurd e h2), (fun e => by rw [hk'] at e; cases e), (fun _ => h3)⟩
    rw [onFrame_message, hfail]
    by_cases hv : isViolation g = true
    · -- the frame breaks a framing rule
      rw [if_pos hv]
      refine entry .proto ?_ (hwinMsg _ _ .proto _ rfl hk nofun nofun nofun)
      rw [pendW_invoke rfl, O.wants, hv, if_pos rfl]
      show enterPush (kindOf o0 cb) m.last (stOf (handleOutcome s0.ws s0.rx (absFrame g)).1) _
        (if kindOf o0 cb == Kind.read then some g else none) = _
      rw [hk, hlast, O.wsV hv]
      rfl
    · have hvf : isViolation g = false := by simpa using hv
      rw [if_neg hv]
      by_cases hctl : controlOp g.op = true
      · -- a control frame: the control callback, then the read goes on
        rw [if_pos ((O.ctl hvf).trans hctl), took_eq (news := (handleOutcome s0.ws s0.rx (absFrame g)).2.1) o0 g rfl]
        refine handled [.ctl, .again cb (.message room cont)] o0.held (some g) (fun p hp => Or.inr (List.mem_singleton.1 hp))
          (Or.inr (Or.inl ⟨_, rfl⟩)) rfl h0.heldOk (fun hr => (hr4 hr).elim) (Or.inr rfl) ?_ ⟨g, rfl, hctl, O.wsOk hvf⟩
        · rw [pendW_ctl rfl, O.wants, hvf, hlast]
          show (replyFor _ ⟨true, 0, g.op, false, g.payload⟩).toList = _
          rw [eta_ctl (O.ctlShape hvf hctl)]
          rfl
      · have hcf : controlOp g.op = false := by simpa using hctl
        obtain ⟨hwsd, hqd⟩ := O.data hvf hcf
        rw [if_neg (by rw [O.ctl hvf, hcf]; nofun)]
        have plain : ∀ (r : Res), r = .proto ∨ r = .ok ∨ r = .tooBig → (r = .ok → g.fin = true) →
            Coup max (push (handleFrame s0 (absFrame g)).1 [.invoke cb r true])
              (took s0 (push (handleFrame s0 (absFrame g)).1 [.invoke cb r true]) o0 g) m [] := by
          intro r hr hfin
          refine entry r ?_ (hwinMsg _ _ r _ rfl hk (by rcases hr with rfl | rfl | rfl <;> nofun)
            (by rcases hr with rfl | rfl | rfl <;> nofun) fun hok => ⟨g, rfl, hfin hok, hcf, O.ws_ne⟩)
          rw [pendW_invoke rfl, hqd]
          show enterPush (kindOf o0 cb) m.last (stOf (handleOutcome s0.ws s0.rx (absFrame g)).1) _
            (if kindOf o0 cb == Kind.read then some g else none) = _
          rw [hk, hlast, hwsd]
          exact failW_same ..
        by_cases hbig : (absFrame g).len > room
        · -- the message does not fit: the library closes (if the stream is still open) and reports
          rw [if_pos hbig]
          have hws1 : (handleFrame s0 (absFrame g)).1.ws = s0.ws := hwsd
          by_cases hact : s0.ws = .active
          · have hac : asyncClose true (handleFrame s0 (absFrame g)).1 ⟨.closeTooBig s0.rx, 23⟩ .discard =
                asyncFlush true (prepare { (handleFrame s0 (absFrame g)).1 with ws := .closedByUs } ⟨.closeTooBig s0.rx, 23⟩)
                  .discard := by
              simp only [asyncClose, hws1, hact]
            rw [hac]
            have F := asyncFlush_fl (prepare { (handleFrame s0 (absFrame g)).1 with ws := .closedByUs } ⟨.closeTooBig s0.rx, 23⟩)
              .discard
            obtain ⟨f1, f2, f3, f4, f5, f6, _, _, f9, f10⟩ := F.fields
            have hnp := asyncFlush_nopush (prepare { (handleFrame s0 (absFrame g)).1 with ws := .closedByUs }
              ⟨.closeTooBig s0.rx, 23⟩) .discard (by simp [prepare])
            have hsub : (push (asyncFlush true (prepare { (handleFrame s0 (absFrame g)).1 with ws := .closedByUs }
                ⟨.closeTooBig s0.rx, 23⟩) .discard) [.invoke cb .tooBig true]).submitted =
                s0.submitted ++ [⟨.closeTooBig s0.rx, 23⟩] := by
              show (asyncFlush true _ .discard).submitted = _
              rw [f2]
              show s0.submitted ++ (handleOutcome s0.ws s0.rx (absFrame g)).2.1 ++ _ = _
              rw [hqd, List.append_nil]
            rw [took_eq o0 g hsub]
            refine coup_onframe (lk := .m) (cb := cb) h0 hns [⟨.closeTooBig s0.rx, 23⟩] [.invoke cb .tooBig true] o0.held (some g)
              (by simp only [Prod.mk.injEq]; exact ⟨hsub, by show [_] ++ _ = _; rw [hnp]; rfl, f3, f4, f5, f6, f9, f10⟩) hrd0
              (fun p hp => by
                rcases locs_push_one.1 hp with h | h
                · exact Or.inr (Or.inl (List.mem_singleton.1 h))
                · exact (F.rdl p h).elim Or.inl nofun)
              hkind ⟨b, hb, hbf, hbm⟩
              (fun fr hfr => by
                rw [List.mem_singleton.1 hfr]
                exact matches_close 1001 tooBigReason (by decide))
              hws0 (Or.inl ⟨_, rfl⟩) rfl h0.heldOk (fun hr => (hr4 hr).elim) (Or.inr rfl) ?_
              (hwinMsg _ _ .tooBig _ rfl hk nofun nofun nofun)
            rw [pendW_invoke rfl]
            show enterPush (kindOf o0 cb) m.last (stOf (asyncFlush true _ .discard).ws) _
              (if kindOf o0 cb == Kind.read then some g else none) = _
            rw [hk, hlast, f1, hact]
            rfl
          · have hac : asyncClose true (handleFrame s0 (absFrame g)).1 ⟨.closeTooBig s0.rx, 23⟩ .discard =
                (handleFrame s0 (absFrame g)).1 := by
              have : s0.ws = .closedByUs := by
                cases hw : s0.ws <;> first | rfl | exact absurd hw hact | (rw [hw] at hcan; cases hcan)
              simp only [asyncClose, hws1, this]
            rw [hac]
            exact plain .tooBig (Or.inr (Or.inr rfl)) nofun
        · rw [if_neg hbig]
          by_cases hbad : (if cont then (absFrame g).op != .cont else (absFrame g).op == .cont) = true
          · rw [if_pos hbad]
            exact plain .proto (Or.inl rfl) nofun
          · rw [if_neg hbad]
            by_cases hfin : (absFrame g).fin = true
            · rw [if_pos hfin]
              exact plain .ok (Or.inr (Or.inl rfl)) (fun _ => hfin)
            · -- a fragment: the read goes on
              rw [if_neg hfin, took_eq (news := (handleOutcome s0.ws s0.rx (absFrame g)).2.1) o0 g rfl]
              have hcalm : Calm (push (handleFrame s0 (absFrame g)).1 [.again cb (.message (room - (absFrame g).len) true)]).stack :=
                Calm.cons rfl hns
              refine handled [.again cb (.message (room - (absFrame g).len) true)] (o0.held ++ [g]) none
                (fun p hp => Or.inr (List.mem_singleton.1 hp)) (Or.inr (Or.inr ⟨_, rfl⟩)) (List.append_nil _) ?_ (fun hr => (hr4 hr).elim)
                (Or.inl (hlast.trans (congrArg stOf hwsd).symm)) ?_ (window_calm hcalm rfl)
              · intro x hx
                rcases List.mem_append.1 hx with h1 | h1
                · exact h0.heldOk x h1
                · rw [List.mem_singleton.1 h1]
                  exact ⟨hcf, by simpa [absFrame] using hfin⟩
              · rw [pendW_calm hcalm, hqd]
                rfl

end Sonic.Model.WsAsyncObs
