/-
Coupling between a state of the loop model and a state of the API-level ledger (`Sonic.Spec.Ledger`).
-/
import Sonic.Lemmas.LoopLedgerAbs

namespace Sonic.Model.Loop
open Sonic.Spec.Loop (Ev Ret Res OpKind ObjKind maxDispatch)
open Sonic.Spec.Ledger (Rec LFrame L killFrames timerOn)

/-- The callback of a repeating schedule of timer `k` started when the Cancel counter was `cb`; `live` says that it
will be armed again when it returns (no Cancel since, timer not closed). -/
def LiveRel (w : World) (k cb : Nat) (live : Bool) : Prop :=
  ∃ o, getObj w k = some o ∧ o.kind = .timer ∧ cb ≤ o.cancels ∧ (o.cancelled = true → cb < o.cancels) ∧
    (live = true ↔ (o.cancels = cb ∧ o.tstate ≠ .closed))

def FrameRel (w : World) : K → LFrame → Prop
  | .startCall op k kind c, .start r e => r = ⟨op, k, kind⟩ ∧ e = c
  | .schedCall op k rep _ c, .sched r e => r = ⟨op, k, if rep then .timerRep else .timerOnce⟩ ∧ e = c
  | .postCall op, .post op' => op' = op
  | .closeCall k, .close k' => k' = k
  | .tcancelCall k, .tcancel k' => k' = k
  | .pendingCall, .pending => True
  | .cancelCall _ _, .other => True
  | .scheduledCall _, .other => True
  | .pollCall _, .other => True
  | .otherCall, .other => True
  | .finishCall, .other => True
  | .user op (.timerDone k true cb), .handler r live => r = ⟨op, k, .timerRep⟩ ∧ LiveRel w k cb live
  | .user op _, .handler r live => r.id = op ∧ (r.kind = .timerRep → live = false)
  | _, _ => False

def StackRel (w : World) : List K → List LFrame → Prop
  | [], [] => True
  | k :: ks, f :: fs => FrameRel w k f ∧ StackRel w ks fs
  | _, _ => False

structure Sim (w : World) (l : L) : Prop where
  owed : l.owed.Perm (absOwed w)
  stack : StackRel w w.stack l.stack

theorem sim_init : Sim ({} : World) ({} : L) := ⟨List.Perm.refl _, trivial⟩

/-- What `FrameRel` reads of the timers (through `LiveRel`) is in `w'` as in `w`, except that a `cancelled` mark may have
been cleared: the harmless direction, `LiveRel` having the mark only as a premise (`stackRel_tsame`). -/
def TSame (w w' : World) : Prop :=
  ∀ k o, getObj w k = some o → o.kind = .timer → ∃ o', getObj w' k = some o' ∧ o'.kind = .timer ∧ o'.cancels = o.cancels ∧
    (o'.cancelled = true → o.cancelled = true) ∧ (o'.tstate = .closed ↔ o.tstate = .closed)

def lfOf : K → LFrame
  | .startCall op k kind c => .start ⟨op, k, kind⟩ c
  | .schedCall op k rep _ c => .sched ⟨op, k, if rep then .timerRep else .timerOnce⟩ c
  | .postCall op => .post op
  | .closeCall k => .close k
  | .tcancelCall k => .tcancel k
  | .pendingCall => .pending
  | _ => .other

theorem user_or_lib (k : K) : (∃ op a, k = .user op a) ∨ ∀ op a, k ≠ .user op a := by
  cases k with
  | user op a => exact Or.inl ⟨op, a, rfl⟩
  | _ => exact Or.inr fun _ _ => K.noConfusion

theorem frameRel_lib {w : World} {k : K} {f : LFrame} (hk : ∀ op a, k ≠ .user op a) : FrameRel w k f ↔ f = lfOf k := by
  constructor
  · intro h
    unfold FrameRel at h
    split at h
    -- `startCall` with `start`, `schedCall` with `sched`: the clause gives the record and the flag
    · rw [h.1, h.2]; rfl
    · rw [h.1, h.2]; rfl
    -- `postCall`, `closeCall`, `tcancelCall`: the clause gives the argument
    · rw [h]; rfl
    · rw [h]; rfl
    · rw [h]; rfl
    -- `pendingCall` with `pending`, and the five frames that go with `other`
    · rfl
    · rfl
    · rfl
    · rfl
    · rfl
    · rfl
    -- the two clauses for `user` frames
    · exact absurd rfl (hk _ _)
    · exact absurd rfl (hk _ _)
    -- every other pair is unrelated
    · exact h.elim
  · rintro rfl
    cases k with
    | user op a => exact absurd rfl (hk op a)
    | startCall | schedCall => exact ⟨rfl, rfl⟩
    | postCall | closeCall | tcancelCall => exact rfl
    | _ => trivial

theorem fr_user {w : World} {op : Nat} {a : After} {f : LFrame} (h : FrameRel w (.user op a) f) :
    ∃ r live, f = .handler r live ∧ r.id = op ∧
      ((∃ k cb, a = .timerDone k true cb ∧ r = ⟨op, k, .timerRep⟩ ∧ LiveRel w k cb live) ∨
       ((∀ k cb, a ≠ .timerDone k true cb) ∧ (r.kind = .timerRep → live = false))) := by
  cases a with
  | timerDone k rep cb =>
    cases rep with
    | true =>
      cases f with
      | handler r live => exact ⟨r, live, rfl, by rw [h.1], Or.inl ⟨k, cb, rfl, h.1, h.2⟩⟩
      | _ => exact h.elim
    | false =>
      cases f with
      | handler r live => exact ⟨r, live, rfl, h.1, Or.inr ⟨(fun _ _ e => by cases e), h.2⟩⟩
      | _ => exact h.elim
  | _ =>
    cases f with
    | handler r live => exact ⟨r, live, rfl, h.1, Or.inr ⟨fun _ _ => After.noConfusion, h.2⟩⟩
    | _ => exact h.elim

theorem fr_user_plain {w : World} {op : Nat} {a : After} {r : Rec} {live : Bool} (hid : r.id = op)
    (ha : ∀ k cb, a ≠ .timerDone k true cb) (hk : r.kind = .timerRep → live = false) : FrameRel w (.user op a) (.handler r live) := by
  cases a with
  | timerDone k rep cb =>
    cases rep with
    | true => exact absurd rfl (ha k cb)
    | false => exact ⟨hid, hk⟩
  | _ => exact ⟨hid, hk⟩

theorem stackRel_nil {w : World} {lst : List LFrame} (h : StackRel w [] lst) : lst = [] := by
  cases lst with
  | nil => rfl
  | cons _ _ => exact h.elim

theorem stackRel_cons {w : World} {k : K} {ks : List K} {lst : List LFrame} (h : StackRel w (k :: ks) lst) :
    ∃ f fs, lst = f :: fs ∧ FrameRel w k f ∧ StackRel w ks fs := by
  cases lst with
  | nil => exact h.elim
  | cons f fs => exact ⟨f, fs, rfl, h.1, h.2⟩

theorem liveRel_tsame {w w' : World} (h : TSame w w') {k cb : Nat} {live : Bool} (hl : LiveRel w k cb live) : LiveRel w' k cb live := by
  obtain ⟨o, hg, hk, h1, h2, h3⟩ := hl
  obtain ⟨o', hg', hk', hc, hcc, hcl⟩ := h k o hg hk
  refine ⟨o', hg', hk', by rw [hc]; exact h1, fun hx => by rw [hc]; exact h2 (hcc hx), ?_⟩
  rw [h3, hc, ne_eq, ne_eq, hcl]

theorem frameRel_tsame {w w' : World} (h : TSame w w') {k : K} {f : LFrame} (hf : FrameRel w k f) : FrameRel w' k f := by
  rcases user_or_lib k with ⟨op, a, rfl⟩ | hlib
  · obtain ⟨r, live, rfl, hid, hc⟩ := fr_user hf
    rcases hc with ⟨j, cb, rfl, rfl, hl⟩ | ⟨ha, hk⟩
    · exact ⟨rfl, liveRel_tsame h hl⟩
    · exact fr_user_plain hid ha hk
  · exact (frameRel_lib hlib).2 ((frameRel_lib hlib).1 hf)

theorem stackRel_tsame {w w' : World} (h : TSame w w') : ∀ {st : List K} {lst : List LFrame}, StackRel w st lst → StackRel w' st lst
  | [], [], _ => trivial
  | [], _ :: _, hs => hs.elim
  | _ :: _, [], hs => hs.elim
  | _ :: _, _ :: _, hs => ⟨frameRel_tsame h hs.1, stackRel_tsame h hs.2⟩

theorem tsame_objs {w w' : World} (h : w'.objs = w.objs) : TSame w w' := by
  intro k o hg hk
  refine ⟨o, ?_, hk, rfl, id, Iff.rfl⟩
  unfold getObj at *; rw [h]; exact hg

theorem getObj_of_setObj {w w' : World} {o' : Obj} (ho : w'.objs = (setObj w o').objs) (k : Nat) :
    getObj w' k = getObj (setObj w o') k := by
  unfold getObj; rw [ho]

theorem tsame_of_setObj {w w' : World} {o o' : Obj} (hg : getObj w o.id = some o) (ho : w'.objs = (setObj w o').objs)
    (hid : o'.id = o.id) (hk : o'.kind = o.kind) (hc : o'.cancels = o.cancels)
    (hcc : o'.cancelled = true → o.cancelled = true) (hcl : o'.tstate = .closed ↔ o.tstate = .closed) : TSame w w' := by
  intro k x hgx hkx
  rw [getObj_of_setObj ho]
  by_cases hkk : k = o'.id
  · rw [hkk, hid, hg] at hgx
    cases hgx
    exact ⟨o', by rw [hkk, hid]; exact getObj_setObj o' hg hid, by rw [hk]; exact hkx, hc, hcc, hcl⟩
  · exact ⟨x, by rw [getObj_setObj_ne w o' k hkk]; exact hgx, hkx, rfl, id, Iff.rfl⟩

theorem tsame_stack {w : World} (st : List K) : TSame w { w with stack := st } := tsame_objs (w := w) (w' := { w with stack := st }) rfl

theorem stackRel_stack {w : World} {st0 st : List K} {lst : List LFrame} (h : StackRel w st lst) :
    StackRel { w with stack := st0 } st lst := stackRel_tsame (w := w) (w' := { w with stack := st0 }) (tsame_objs rfl) h

end Sonic.Model.Loop
