/-
`upgrade` and `handshake` of the model as functions of the delivered bytes only.
-/
import Sonic.Lemmas.WsHandshakeFacts

namespace Sonic.Lemmas.WsHandshake
open Sonic.Spec.WsHandshake Sonic.Model.WsHandshake

/-- `IsUpgradeRes` and the accept comparison, on the parsed response. -/
def goodRes (P : Params) (key : String) (res : HttpResp) : Bool :=
  isUpgradeRes res && res.accept == some (P.acceptOf key)

/-- The outcome of a handshake as a function of the delivered bytes only (no segmentation, no buffer sizes). -/
def outcome (P : Params) (key : String) (rest : Bytes) (closed : Bool) : Err :=
  match headEnd rest with
  | none => if closed then .eof else .other
  | some k =>
    match P.parse (rest.take k) with
    | none => .malformed
    | some res => if goodRes P key res then .nil else .cannotUpgrade

theorem upgrade_spec (P : Params) (hgrow : ∀ c, c < P.grow c) (s : St) (key : String) (w : Wire)
    (hsmall : w.rest.length < maxHandshakeResponseLength) :
    ∃ src l c w', upgrade P s key w = ({ s with src := src, hbLen := l, hbCap := c }, outcome P key w.rest w.closed, w') ∧
      ∀ k, headEnd w.rest = some k → (P.parse (w.rest.take k)).isSome →
        src ++ w'.rest = s.src ++ w.rest.drop k ∧ w'.closed = w.closed ∧ l = 0 := by
  obtain ⟨hf, hn⟩ := readLoop_spec P hgrow (w.rest.length + 1) [] s.hbCap w rfl (Nat.zero_le _)
    (by simpa using hsmall) (Nat.lt_succ_self _)
  rw [List.nil_append] at hf hn
  unfold upgrade outcome
  cases hh : headEnd w.rest with
  | none =>
    rw [hn hh]
    cases w.closed
    · exact ⟨s.src, 0, s.hbCap, w, rfl, fun k hk => nomatch hk⟩
    · exact ⟨s.src, 0, s.hbCap, _, rfl, fun k hk => nomatch hk⟩
  | some k =>
    obtain ⟨buf', cap', w', hr, hcat, hk, hcl⟩ := hf k hh
    have htake : buf'.take k = w.rest.take k := by rw [← hcat, List.take_append_of_le_length hk]
    have hdrop : buf'.drop k ++ w'.rest = w.rest.drop k := by rw [← hcat, List.drop_append_of_le_length hk]
    rw [hr]
    dsimp only
    rw [htake]
    cases hp : P.parse (w.rest.take k) with
    | none => exact ⟨s.src, buf'.length, cap', w', rfl, fun k' hk' hs => by cases hk'; rw [hp] at hs; cases hs⟩
    | some res =>
      dsimp only
      refine ⟨s.src ++ buf'.drop k, 0, cap', w', ?_, fun k' hk' _ => ?_⟩
      · unfold goodRes
        cases isUpgradeRes res <;> cases res.accept == some (P.acceptOf key) <;> rfl
      · cases hk'
        exact ⟨by rw [List.append_assoc, hdrop], hcl, rfl⟩

theorem outcome_nil {P : Params} {key : String} {rest : Bytes} {closed : Bool} (h : outcome P key rest closed = .nil) :
    ∃ k res, headEnd rest = some k ∧ P.parse (rest.take k) = some res ∧ goodRes P key res = true := by
  unfold outcome at h
  cases hh : headEnd rest with
  | none => rw [hh] at h; simp only at h; split at h <;> cases h
  | some k =>
    rw [hh] at h; simp only at h
    cases hp : P.parse (rest.take k) with
    | none => rw [hp] at h; cases h
    | some res =>
      rw [hp] at h; simp only at h
      cases hg : goodRes P key res with
      | false => rw [hg] at h; cases h
      | true => exact ⟨k, res, rfl, hp, hg⟩

/-- `Handshake` / `AsyncHandshake`: the result is a function of the delivered bytes only. -/
theorem handshake_spec (P : Params) (hgrow : ∀ c, c < P.grow c) (s : St) (key : String) (w : Wire)
    (hsmall : w.rest.length < maxHandshakeResponseLength) :
    (handshake P s key w).2.1 = outcome P key w.rest w.closed ∧
    (handshake P s key w).1.pending = 0 ∧ (handshake P s key w).1.dst = [] ∧
    (handshake P s key w).1.asyncFlushing = false ∧ (handshake P s key w).1.flushWaiters = 0 ∧
    ((handshake P s key w).2.1 = .nil →
      (handshake P s key w).1.state = .active ∧ (handshake P s key w).1.conn = true ∧
      (handshake P s key w).1.stream = true ∧ (handshake P s key w).2.2.closed = w.closed ∧
      ∀ k, headEnd w.rest = some k → frameStream (handshake P s key w).1 (handshake P s key w).2.2 = w.rest.drop k) ∧
    ((handshake P s key w).2.1 ≠ .nil →
      (handshake P s key w).1.state = .terminated ∧ (handshake P s key w).1.conn = false) := by
  obtain ⟨src, l, c, w', hup, hfound⟩ := upgrade_spec P hgrow { reset s with conn := true } key w hsmall
  unfold handshake
  dsimp only
  rw [hup]
  cases ho : outcome P key w.rest w.closed with
  | nil =>
    obtain ⟨k, res, hk, hp, _⟩ := outcome_nil ho
    obtain ⟨hsrc, hcl, _⟩ := hfound k hk (by rw [hp]; rfl)
    refine ⟨rfl, rfl, rfl, rfl, rfl, fun _ => ⟨rfl, rfl, rfl, hcl, fun k' hk' => ?_⟩, fun h => absurd rfl h⟩
    rw [hk] at hk'
    cases hk'
    exact hsrc
  | eof | cannotUpgrade | malformed | other => exact ⟨rfl, rfl, rfl, rfl, rfl, fun h => Err.noConfusion h, fun _ => ⟨rfl, rfl⟩⟩

end Sonic.Lemmas.WsHandshake
