/-
Two small invariants of the loop model used by the exactly-once theorem: the table of started operations only
grows (an id keeps its kind for ever), and a "repeating timer callback" frame is only ever pushed for an operation
whose recorded kind is `timerRep`.
-/
import Sonic.Lemmas.LoopInv
import Sonic.Lemmas.LoopStep

namespace Sonic.Model.Loop
open Sonic.Spec.Loop (Ev Ret Res OpKind ObjKind maxDispatch)

def Grows (ops ops' : List OpInfo) : Prop :=
  ops' = ops ∨ ∃ i0, ops' = i0 :: ops ∧ opIn ops i0.id = none

theorem Grows.find {ops ops' : List OpInfo} (hg : Grows ops ops') {x : Nat} {info : OpInfo}
    (h : opIn ops x = some info) : opIn ops' x = some info := by
  rcases hg with rfl | ⟨i0, rfl, hfresh⟩
  · exact h
  · exact opIn_cons_fresh hfresh h

def RepOk (ops : List OpInfo) : List K → Prop
  | [] => True
  | .user op (.timerDone _ true _) :: r => (∃ info, opIn ops op = some info ∧ info.kind = .timerRep) ∧ RepOk ops r
  | _ :: r => RepOk ops r

def KindOk (w : World) : Prop := RepOk w.ops w.stack

theorem RepOk.tail {ops : List OpInfo} {f : K} {r : List K} (h : RepOk ops (f :: r)) : RepOk ops r := by
  cases f with
  | user op a =>
    cases a with
    | timerDone k rep cb => cases rep <;> first | exact h | exact h.2
    | _ => exact h
  | _ => exact h

theorem RepOk.mono {ops ops' : List OpInfo} (hg : Grows ops ops') : ∀ {st : List K}, RepOk ops st → RepOk ops' st
  | [], _ => trivial
  | f :: r, h => by
    have ht := RepOk.mono hg h.tail
    cases f with
    | user op a =>
      cases a with
      | timerDone k rep cb =>
        cases rep with
        | false => exact ht
        | true => exact ⟨h.1.imp fun _ hi => ⟨hg.find hi.1, hi.2⟩, ht⟩
      | _ => exact ht
    | _ => exact ht

/-- The repeating-timer frames are judged by the old table; the poller is the only one to push such a frame, for the
operation whose handler the timer holds. -/
theorem step_kinds {w w' : World} {e : Ev} (h : step w e = some w') :
    Grows w.ops w'.ops ∧ (RepOk w.ops w.stack → RepOk w.ops w'.stack) := by
  cases step_sound h with
  | exit hstk hrule =>
    refine ⟨?_, fun hk => ?_⟩
    · cases hrule with
      | timerRearm => exact Or.inl (armTimer_ops ..)
      | _ => exact Or.inl rfl
    · rw [hstk] at hk
      cases hrule with
      | timerRearm => rw [armTimer_stack]; exact hk.tail
      | _ => exact hk.tail
  | cancel hstk hrule =>
    cases hrule with
    | read => exact ⟨Or.inl (delRead_ops ..), fun hk => (hstk ▸ hk :)⟩
    | write => exact ⟨Or.inl (delWrite_ops ..), fun hk => (hstk ▸ hk :)⟩
    | done => exact ⟨Or.inl rfl, fun hk => (hstk ▸ hk :)⟩
  | poll hstk hrule =>
    cases hrule with
    | post => exact ⟨Or.inl rfl, fun hk => (hstk ▸ hk :)⟩
    | @timer info _ hop =>
      refine ⟨Or.inl rfl, fun hk => ?_⟩
      have hk' : RepOk w.ops (.pollCall true :: _) := (hstk ▸ hk :)
      cases hrep : info.kind == .timerRep with
      | false => exact hk'
      | true => exact ⟨⟨info, hop, by simpa using hrep⟩, hk'⟩
    | read => exact ⟨Or.inl (delRead_ops ..), fun hk => (hstk ▸ hk :)⟩
    | write => exact ⟨Or.inl (delWrite_ops ..), fun hk => (hstk ▸ hk :)⟩
  | deferRead hstk => exact ⟨Or.inl (setRead_ops ..), fun hk => (hstk ▸ hk :)⟩
  | deferWrite hstk => exact ⟨Or.inl (setWrite_ops ..), fun hk => (hstk ▸ hk :)⟩
  | close hstk => exact ⟨Or.inl (closeObj_ops ..), fun hk => by rw [hstk] at hk; exact hk⟩
  | arm hstk => exact ⟨Or.inl (by simp), fun hk => by rw [hstk] at hk; exact hk⟩
  | inline hstk | startFail hstk | schedNow hstk | tcancel hstk | posted hstk =>
    exact ⟨Or.inl rfl, fun hk => (hstk ▸ hk :)⟩
  | pop hstk hdrop => exact ⟨Or.inl rfl, fun hk => (hstk ▸ hk : RepOk w.ops (_ :: _)).tail⟩
  | push huser hcall => exact ⟨Or.inl rfl, fun hk => by cases hcall <;> exact hk⟩
  | newObj | setDisp => exact ⟨Or.inl rfl, id⟩
  | callStart huser hobj hfresh => exact ⟨Or.inr ⟨_, rfl, hfresh⟩, id⟩
  | callSched huser hobj hfresh => exact ⟨Or.inr ⟨_, rfl, hfresh⟩, id⟩
  | callPost huser hfresh => exact ⟨Or.inr ⟨_, rfl, hfresh⟩, id⟩

theorem kindOk_step {w w' : World} {e : Ev} (hk : KindOk w) (h : step w e = some w') : KindOk w' :=
  RepOk.mono (step_kinds h).1 ((step_kinds h).2 hk)

theorem getOp_mono_step {w w' : World} {e : Ev} (h : step w e = some w') {x : Nat} {info : OpInfo}
    (hx : getOp w x = some info) : getOp w' x = some info :=
  (step_kinds h).1.find hx

end Sonic.Model.Loop
