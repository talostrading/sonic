/-
An observed step of the asynchronous WebSocket model is accepted by the C17 property monitor and keeps the coupling
invariant: one lemma per label, for the labels in which the read path handles no frame (popping the control stack, the
events of the environment, progress and failure of the transport, a callback or the control callback being entered, a
call being made).
-/
import Sonic.Lemmas.WsAsyncObsRel

namespace Sonic.Model.WsAsyncObs
open Sonic.Model.WsAsync
open Sonic.Spec.WsStream (Bytes StreamState replyCode closeCodeOf u16 isViolation controlOp)
open Sonic.Spec.WsAsync (Cb Ev Kind Want WireFrame findCb setCb enterPush failW addW entered deliver replyFor pattern LedEq
  started start_fresh findCb_started step_callWrite step_callWriteFrame step_callClose step_ret_call step_ret_poll retCb_eq
  step_exit step_enter step_ctl step_wire step_wire_unhealthy step_finish matchWire_ok deliver_notRead takeData_upto
  deliverFrame deliverMsg deliverCtl)

variable {max : Nat} {prog : CbId → List Action} {s s' : St} {o o' : Ob} {m : MS} {evs : List Ev}

theorem mrun_single {m m' : MS} {e : Ev} (h : mstep m e = .ok m') : mrun m [e] = .ok m' := by
  show Sonic.Spec.WsAsync.run m [e] = _
  simp only [Sonic.Spec.WsAsync.run]
  rw [show Sonic.Spec.WsAsync.step m e = .ok m' from h]

theorem sim_skip {a : Action} (h : Coup max s o m []) (hs : ostep max prog s o (.skip a) = some (s', o', evs)) :
    ∃ m', mrun m evs = .ok m' ∧ Coup max s' o' m' [] := by
  simp only [ostep, Option.map_eq_some_iff, Prod.mk.injEq] at hs
  obtain ⟨s1, hst, rfl, rfl, rfl⟩ := hs
  obtain ⟨rest, hstk, rfl⟩ := of_step_skip hst
  exact ⟨m, mrun_single rfl, coup_pop h hstk rfl rfl⟩

theorem sim_exit {cb : CbId} (h : Coup max s o m []) (hs : ostep max prog s o (.exit cb) = some (s', o', evs)) :
    ∃ m', mrun m evs = .ok m' ∧ Coup max s' o' m' [] := by
  simp only [ostep, Option.map_eq_some_iff, Prod.mk.injEq] at hs
  obtain ⟨s1, hst, rfl, rfl, rfl⟩ := hs
  obtain ⟨rest, hstk, rfl⟩ := of_step_exit hst
  obtain ⟨f, r, hm, hf, hr⟩ := h.stk_top hstk rfl
  cases shapeF_inv hf
  have hl : m.last = stOf s.ws := h.last_eq (by rw [hstk]; rfl)
  have := coup_pop_mon h hstk rfl hr (LedEq.refl _)
  rw [← hl] at this
  exact ⟨{ m with stack := r }, mrun_single (step_exit hm), this⟩

theorem sim_ret (h : Coup max s o m []) (hs : ostep max prog s o .ret = some (s', o', evs)) :
    ∃ m', mrun m evs = .ok m' ∧ Coup max s' o' m' [] := by
  simp only [ostep, Option.map_eq_some_iff, Prod.mk.injEq] at hs
  obtain ⟨s1, hst, rfl, rfl, rfl⟩ := hs
  obtain ⟨t, rest, ht, hstk, rfl⟩ := of_step_ret hst
  rcases ht with rfl | rfl
  · obtain ⟨f, r, hm, hf, hr⟩ := h.stk_top hstk rfl
    obtain ⟨cb0, rfl⟩ := shapeF_inv hf
    obtain ⟨cbs, e, hled⟩ := retCb_eq { m with stack := r, last := stOf s.ws } cb0
    refine ⟨_, mrun_single (step_ret_call _ hm), ?_⟩
    rw [e]
    exact coup_pop_mon h hstk rfl hr hled
  · obtain ⟨f, r, hm, hf, hr⟩ := h.stk_top hstk rfl
    cases shapeF_inv hf
    exact ⟨_, mrun_single (step_ret_poll _ hm), coup_pop_mon h hstk rfl hr (LedEq.refl _)⟩

theorem sim_peer {g : CFrame} (h : Coup max s o m []) (hs : ostep max prog s o (.peer g) = some (s', o', evs)) :
    ∃ m', mrun m evs = .ok m' ∧ Coup max s' o' m' [] := by
  simp only [ostep, Option.some.injEq, Prod.mk.injEq] at hs
  obtain ⟨rfl, rfl, rfl⟩ := hs
  refine ⟨{ m with inq := m.inq ++ [g] }, mrun_single rfl, { h with rdq := fun hsy hws => ?_ }⟩
  obtain ⟨h1, h2⟩ := h.rdq hsy hws
  refine ⟨?_, h2⟩
  show m.inq ++ [g] = _
  rw [h1]
  simp only [List.append_nil, List.append_assoc]

theorem sim_peerEof (h : Coup max s o m []) (hs : ostep max prog s o .peerEof = some (s', o', evs)) :
    ∃ m', mrun m evs = .ok m' ∧ Coup max s' o' m' [] := by
  simp only [ostep, Option.some.injEq, Prod.mk.injEq] at hs
  obtain ⟨rfl, rfl, rfl⟩ := hs
  exact ⟨m, mrun_single rfl, h⟩

/-- The peer reports the next `k` frames it parsed: they are the next `k` submitted frames, which the monitor expects. -/
theorem sim_drain {k : Nat} (hI : Inv s) (h : Coup max s o m []) (hs : ostep max prog s o (.drain k) = some (s', o', evs)) :
    ∃ m', mrun m evs = .ok m' ∧ Coup max s' o' m' [] := by
  simp only [ostep] at hs
  split at hs
  · rename_i hg
    obtain ⟨hst, hk⟩ := hg
    simp only [Option.some.injEq, Prod.mk.injEq] at hs
    obtain ⟨rfl, rfl, rfl⟩ := hs
    have hns : Calm s.stack := fun t ht => by rw [hst] at ht; cases ht
    cases hh : m.healthy with
    | false =>
      have hf : m.healthy = true → False := fun h1 => by rw [hh] at h1; cases h1
      exact ⟨m, mrun_single (step_wire_unhealthy _ hh), { h with exp := fun h1 => (hf h1).elim, rep := fun h1 => (hf h1).elim }⟩
    | true =>
      have he := (h.of_calm hns).2 hh
      -- the frames reported, paired with what the monitor wants of them
      have hmw := matchWire_ok (·.want) (·.wf) ((o.sub.drop (o.reported + k)).map (·.want))
        ((o.sub.drop o.reported).take k) (fun y hy => h.subM y (List.mem_of_mem_drop (List.mem_of_mem_take hy)))
      rw [← List.drop_drop, ← List.map_append, List.take_append_drop, ← he] at hmw
      refine ⟨_, mrun_single (step_wire hh hmw), { h with exp := fun _ => ?_, rep := fun _ => ?_ }⟩
      · show _ ++ pendW s _ _ = _
        rw [pendW_calm hns, List.append_nil, List.drop_drop]
      · show o.reported + k ≤ o.sub.length
        have hw := hI.wire.frames (h.hl hh)
        rw [show o.sub.length = s.submitted.length by rw [← h.subF, List.length_map], ← hw]
        simp only [List.length_append]
        omega
  · cases hs

theorem sim_finish (hI : Inv s) (h : Coup max s o m []) (hs : ostep max prog s o .finish = some (s', o', evs)) :
    ∃ m', mrun m evs = .ok m' ∧ Coup max s' o' m' [] := by
  simp only [ostep] at hs
  split at hs
  · rename_i hg
    obtain ⟨hq, hp, hr⟩ := hg
    simp only [Option.some.injEq, Prod.mk.injEq] at hs
    obtain ⟨rfl, rfl, rfl⟩ := hs
    refine ⟨m, mrun_single (step_finish fun hsh hmh => ⟨?_, ?_⟩), h⟩
    · -- every callback handed over is in the log
      rw [List.any_eq_false]
      intro c hc
      obtain ⟨h1, h2, _⟩ := h.ledMem c hc
      rw [h2]
      simp [log_of_quiescent hI hq c.id h1]
    · -- everything submitted is on the wire and has been reported
      have he := (h.of_calm (fun t ht => by rw [hq.1] at ht; cases ht)).2 hmh
      have hw := hI.wire.frames hsh
      simp only [wrBuf, hq.2.1, hp, List.append_nil] at hw
      rw [he, hr, hw, ← h.subF, List.length_map, List.drop_length]
      rfl
  · cases hs

theorem sim_wrote {n : Nat} (h : Coup max s o m []) (hs : ostep max prog s o (.wrote n) = some (s', o', evs)) :
    ∃ m', mrun m evs = .ok m' ∧ Coup max s' o' m' [] := by
  simp only [ostep, Option.map_eq_some_iff, Prod.mk.injEq] at hs
  obtain ⟨s1, hst, rfl, rfl, rfl⟩ := hs
  obtain ⟨rest, w, hstk, hwr, _, rfl⟩ := of_step_wrote hst
  refine ⟨m, rfl, ?_⟩
  unfold afterWrote
  split
  · -- the frame is out: the flush goes on with the callbacks the reactor held
    refine coup_fl (s := { s with bytes := _, wr := none, wire := _ }) ?_ (asyncFlushGo_fl _ w.k) (h.calm hstk rfl)
      (Or.inl (h.last_eq (by rw [hstk]; rfl))) nofun (h.cont_cbs fun p hp => (locs_wr hwr).2 (Or.inl hp))
    exact coup_same h rfl (fun p hp => locs_of_wr_none (s := s) hp) h.rdCan h.hl
  · exact coup_same h rfl (fun p hp => (locs_wr hwr).2 ((locs_wr (s := { s with bytes := _, wr := some _ }) rfl).1 hp))
      h.rdCan h.hl

theorem sim_wrErr (h : Coup max s o m []) (hs : ostep max prog s o .wrErr = some (s', o', evs)) :
    ∃ m', mrun m evs = .ok m' ∧ Coup max s' o' m' [] := by
  simp only [ostep, Option.map_eq_some_iff, Prod.mk.injEq] at hs
  obtain ⟨s1, hst, rfl, rfl, rfl⟩ := hs
  obtain ⟨rest, w, hstk, hwr, rfl⟩ := of_step_wrErr hst
  refine ⟨{ m with healthy := false }, mrun_single rfl, ?_⟩
  refine coup_fl (s := { s with wr := none, healthy := false }) ?_ (flushDone_fl _ w.k false) (h.calm hstk rfl)
    (Or.inl (h.last_eq (by rw [hstk]; rfl))) (fun _ => rfl) (h.cont_cbs fun p hp => (locs_wr hwr).2 (Or.inl hp))
  exact coup_same h.unhealthy rfl (fun p hp => locs_of_wr_none (s := s) hp) h.rdCan nofun

theorem sim_rdEof (h : Coup max s o m []) (hs : ostep max prog s o .rdEof = some (s', o', evs)) :
    ∃ m', mrun m evs = .ok m' ∧ Coup max s' o' m' [] := by
  simp only [ostep, Option.map_eq_some_iff, Prod.mk.injEq] at hs
  obtain ⟨s1, hst, rfl, rfl, rfl⟩ := hs
  obtain ⟨rest, cb, rk, hstk, hrd, rfl⟩ := of_step_rdEof hst
  obtain ⟨b, hb, _⟩ := h.reader ((locs_rd hrd).2 (Or.inl rfl))
  exact ⟨m, rfl, coup_rinvoke none .terminated s.healthy h (h.calm hstk rfl) hb (Or.inl rfl) rfl (Or.inl rfl) h.hl⟩

theorem sim_rdErr (h : Coup max s o m []) (hs : ostep max prog s o .rdErr = some (s', o', evs)) :
    ∃ m', mrun m evs = .ok m' ∧ Coup max s' o' m' [] := by
  simp only [ostep, Option.map_eq_some_iff, Prod.mk.injEq] at hs
  obtain ⟨s1, hst, rfl, rfl, rfl⟩ := hs
  obtain ⟨rest, cb, rk, hstk, hrd, rfl⟩ := of_step_rdErr hst
  obtain ⟨b, hb, _⟩ := h.reader ((locs_rd hrd).2 (Or.inl rfl))
  exact ⟨{ m with healthy := false }, mrun_single rfl,
    coup_rinvoke none s.ws false h.unhealthy (h.calm hstk rfl) hb (Or.inr rfl) rfl (Or.inr ⟨rfl, rfl, rfl⟩) nofun⟩

/-- The delivery check of the monitor for the read callback that is about to be entered: what the callback is handed is
the head of what the peer sent, and it is consumed. -/
theorem deliver_read {cb : CbId} {r : Res} {rest : List Task} (h : Coup max s o m [])
    (hst : s.stack = .invoke cb r true :: rest) (hk : (kindOf o cb).isRead = true) :
    ∃ q a sy, deliver m (kindOf o cb) (resOf r) (if kindOf o cb == .read then o.cur else none)
        (if kindOf o cb == .readMsg then some (o.macc ++ payloads o.held ++ payloads o.cur.toList) else none) =
          .ok { m with inq := q, macc := a, synced := sy } ∧
      (sy = true → s.ws ≠ .terminated → q = o.inboxC ++ o.net ∧ a = []) := by
  have hw := h.win
  unfold Window at hw
  rw [hst] at hw
  obtain ⟨hnc, heof, hwr, hwm⟩ := hw
  obtain ⟨b, hrdr, _, _⟩ := h.rdr2 _ ((locs_cons hst).2 (Or.inl (List.mem_singleton.2 rfl))) rfl
  have hk3 := h.rdr3 cb b hrdr
  -- a result other than ok / proto keeps `synced` only for eof, and then the stream is terminated
  have hsync : ∀ {P : Prop} (x : Bool), (x = true → r = .eof) → (true && x) = true → s.ws ≠ .terminated → P :=
    fun x hxe hx hne => absurd (heof (hxe hx)) hne
  cases hkk : kindOf o cb with
  | read =>
    have hbf : b = false := by
      cases b with
      | false => rfl
      | true => rw [hkk] at hk3; cases hk3
    have hmacc : o.macc = [] := (h.rdr4 (fun cb' e => by rw [hrdr, hbf] at e; cases e)).2
    obtain ⟨hheld, hcur⟩ := hwr hkk
    simp only [deliver, beq_self_eq_true, if_true, deliverFrame]
    rcases Bool.eq_false_or_eq_true m.synced with hsy | hsy
    case inr => exact ⟨m.inq, m.macc, m.synced, by rw [if_pos (by rw [hsy]; rfl)], fun h1 => by rw [hsy] at h1; cases h1⟩
    case inl =>
      simp only [hsy, Bool.not_true, Bool.false_eq_true, if_false]
      cases hc : o.cur with
      | none =>
        refine ⟨_, _, _, rfl, hsync _ fun hx => ?_⟩
        cases r <;> simp [resOf] at hx hnc ⊢
      | some g =>
        simp only []
        by_cases hcons : (resOf r == Sonic.Spec.WsAsync.Res.ok || (resOf r == .proto && isViolation g)) = true
        · rw [if_pos hcons]
          have hr : r = .ok ∨ r = .proto := by cases r <;> simp [resOf] at hcons ⊢
          obtain ⟨g', hg', hne⟩ := hcur hr
          rw [hc] at hg'; cases hg'
          obtain ⟨hinq, hma⟩ := h.rdq hsy hne
          rw [hheld, hc] at hinq
          simp only [List.nil_append, Option.toList_some, List.cons_append] at hinq
          rw [hinq]
          simp only [beq_self_eq_true, if_true]
          exact ⟨_, _, _, rfl, fun _ _ => ⟨rfl, by rw [hma, hmacc]⟩⟩
        · rw [if_neg hcons]
          refine ⟨_, _, _, rfl, hsync _ fun hx => ?_⟩
          cases r <;> simp [resOf] at hx ⊢
  | readMsg =>
    simp only [deliver, deliverMsg, show (Kind.readMsg == Kind.readMsg) = true from rfl, if_true]
    rcases Bool.eq_false_or_eq_true m.synced with hsy | hsy
    case inr => exact ⟨m.inq, m.macc, m.synced, by rw [if_pos (by rw [hsy]; rfl)], fun h1 => by rw [hsy] at h1; cases h1⟩
    case inl =>
      simp only [hsy, Bool.not_true, Bool.false_eq_true, if_false]
      by_cases hok : (resOf r == Sonic.Spec.WsAsync.Res.ok) = true
      · rw [if_pos hok]
        have hr : r = .ok := by cases r <;> simp [resOf] at hok ⊢
        obtain ⟨g, hg, hfin, hctl, hne⟩ := hwm hkk hr
        obtain ⟨hinq, hma⟩ := h.rdq hsy hne
        rw [hg] at hinq
        simp only [Option.toList_some, List.nil_append, List.append_assoc, List.cons_append] at hinq
        rw [takeData_upto m.macc hinq h.heldOk, hctl, hfin, hg, hma]
        simp only [Bool.false_eq_true, if_false, if_true, Bool.true_and, payloads, Option.toList_some, List.flatMap_cons,
          List.flatMap_nil, List.append_nil, beq_self_eq_true]
        exact ⟨_, _, _, rfl, fun _ _ => ⟨rfl, rfl⟩⟩
      · rw [if_neg hok]
        refine ⟨_, _, _, rfl, hsync _ fun hx => ?_⟩
        cases r <;> simp [resOf] at hx hok hnc ⊢
  | _ => rw [hkk] at hk; cases hk

theorem sim_enter {cb : CbId} {r : Res} (hI : Inv s) (h : Coup max s o m [])
    (hs : ostep max prog s o (.enter cb r) = some (s', o', evs)) : ∃ m', mrun m evs = .ok m' ∧ Coup max s' o' m' [] := by
  simp only [ostep, Option.map_eq_some_iff, Prod.mk.injEq] at hs
  obtain ⟨s1, hst, rfl, rfl, rfl⟩ := hs
  have hI' := step_inv hI hst
  obtain ⟨isRead, rest, hstk, rfl⟩ := of_step_enter hst
  obtain ⟨hstarted, hlog⟩ := enter_owed hI hstk
  obtain ⟨c, hfc, hcdone, hckind⟩ := h.ledger hstarted
  have hdone : c.done = false := hcdone.trans (decide_eq_false hlog)
  have hcomp := h.chain _ ((locs_cons hstk).2 (Or.inl (List.mem_singleton.2 rfl)))
  cases isRead with
  | false =>
    have hkf : (kindOf o cb).isRead = false := hcomp
    obtain ⟨hk1, hk2⟩ := Sonic.Spec.WsAsync.Kind.not_read hkf
    have hw := h.win
    unfold Window at hw
    rw [hstk] at hw
    obtain ⟨hcur, hnp, hinl, hla⟩ := hw
    simp only [hk1, hk2, hkf, Bool.false_eq_true, if_false]
    have hret : r = .cancelled ∨ r = .eof ∨ r = .tooBig → c.returned = false := fun hr => by
      obtain ⟨c1, hc1, hr1⟩ := hinl hr
      rw [hfc] at hc1
      cases hc1
      exact hr1
    -- a completion with an error after the call has returned needs a failed transport, a refusal comes inside the call
    have h1 : (!c.kind.isRead && c.returned && resOf r != Sonic.Spec.WsAsync.Res.ok && m.healthy) = false := by
      rw [hckind, hkf]
      cases r with
      | ok => simp [resOf]
      | err => simp [h.errs cb (hstk ▸ List.mem_cons_self ..)]
      | proto => exact absurd rfl hnp
      | cancelled => simp [hret (Or.inl rfl)]
      | eof => simp [hret (Or.inr (Or.inl rfl))]
      | tooBig => simp [hret (Or.inr (Or.inr rfl))]
    have h2 : (!c.kind.isRead && !c.returned && (resOf r == Sonic.Spec.WsAsync.Res.cancelled || resOf r == .eof) &&
        m.last == StreamState.active) = false := by
      cases r with
      | cancelled => simp [hla (Or.inl rfl)]
      | eof => simp [hla (Or.inr rfl)]
      | _ => simp [resOf]
    have hep : enterPush c.kind m.last (stOf s.ws) (resOf r) none = [] := by
      rw [hckind]; simp [enterPush, failW, hkf]
    exact ⟨_, mrun_single (step_enter hfc hdone h1 h2 (deliver_notRead m (hckind ▸ hkf))),
      coup_enter (prog cb) rfl h hstk hfc hstarted ((pendW_write hstk).trans hep.symm) hcur h.heldOk h.rdq h.rdr1
        (fun p hp => h.rdr2 p ((locs_cons hstk).2 (Or.inr (enter_locs _ _ _ hp)))) h.rdr3 h.rdr4 h.rdr5⟩
  | true =>
    have hkt : (kindOf o cb).isRead = true := hcomp
    obtain ⟨q, a, sy, hdel, hq⟩ := deliver_read h hstk hkt
    simp only [hkt, if_true]
    have h1 : (!c.kind.isRead && c.returned && resOf r != Sonic.Spec.WsAsync.Res.ok && m.healthy) = false := by
      rw [hckind, hkt]; rfl
    have h2 : (!c.kind.isRead && !c.returned && (resOf r == Sonic.Spec.WsAsync.Res.cancelled || resOf r == .eof) &&
        m.last == StreamState.active) = false := by
      rw [hckind, hkt]; rfl
    exact ⟨_, mrun_single (step_enter hfc hdone h1 h2 (by rw [hckind]; exact hdel)),
      coup_enter (prog cb) rfl h hstk hfc hstarted ((pendW_invoke hstk).trans (by rw [hckind])) rfl (fun _ h => nomatch h) hq rfl
        (fun p hp hrp => by rw [locs_not_rd hI' rfl hp] at hrp; cases hrp) nofun (fun _ => ⟨rfl, rfl⟩) nofun⟩

theorem sim_ctl (h : Coup max s o m []) (hs : ostep max prog s o .ctl = some (s', o', evs)) :
    ∃ m', mrun m evs = .ok m' ∧ Coup max s' o' m' [] := by
  simp only [ostep, Option.map_eq_some_iff, Prod.mk.injEq] at hs
  obtain ⟨s1, hst, rfl, rfl, rfl⟩ := hs
  obtain ⟨rest, hstk, rfl⟩ := of_step_ctl hst
  have hw := h.win
  unfold Window at hw
  rw [hstk] at hw
  obtain ⟨g, hg, hctl, hne⟩ := hw
  have hgd : o.cur.getD default = g := by rw [hg]; rfl
  have hns := h.calm_rest hstk
  -- the delivery check: the fragments gathered so far, then the control frame in hand
  have hdel : ∃ q a, deliverCtl m g.op g.payload = .ok { m with inq := q, macc := a } ∧
      (m.synced = true → q = o.inboxC ++ o.net ∧ a = o.macc ++ payloads o.held) := by
    unfold deliverCtl
    rcases Bool.eq_false_or_eq_true m.synced with hsy | hsy
    case inr => exact ⟨m.inq, m.macc, by rw [if_pos (by rw [hsy]; rfl)], fun h1 => by rw [hsy] at h1; cases h1⟩
    case inl =>
      rw [if_neg (by rw [hsy]; simp)]
      obtain ⟨hinq, hma⟩ := h.rdq hsy hne
      rw [hg] at hinq
      simp only [Option.toList_some, List.nil_append, List.append_assoc, List.cons_append, List.append_nil] at hinq
      rw [takeData_upto m.macc hinq h.heldOk, hctl, hma]
      simp only [if_true, hctl, beq_self_eq_true, Bool.and_self]
      exact ⟨_, _, rfl, fun _ => ⟨rfl, rfl⟩⟩
  obtain ⟨q, a, hd, hq⟩ := hdel
  rw [hgd]
  refine ⟨_, mrun_single (step_ctl _ hd), ?_⟩
  exact { h with
    stk := h.stk_pop hstk rfl
    spec := fun t ht => hns t (List.mem_of_mem_tail ht)
    errs := fun cb hc => h.errs cb (hstk ▸ List.mem_cons_of_mem _ hc)
    last := Or.inl rfl
    exp := fun hh => by
      have he := h.exp hh
      rw [pendW_ctl hstk, hgd] at he
      show (m.expect ++ _) ++ pendW _ _ _ = _
      rw [pendW_calm hns, List.append_nil]
      exact he
    rdq := fun hsy _ => hq hsy
    heldOk := fun _ hg => nomatch hg
    win := window_calm hns rfl
    chain := fun p hp => h.chain p ((locs_cons hstk).2 (Or.inr hp))
    rdr2 := fun p hp => h.rdr2 p ((locs_cons hstk).2 (Or.inr hp))
    rdr4 := fun hr => by
      obtain ⟨g1, g2⟩ := h.rdr4 hr
      exact ⟨rfl, by show o.macc ++ payloads o.held = []; rw [g1, g2]; rfl⟩ }

theorem stOf_active {ws : WsState} : stOf ws = .active ↔ ws = .active := by cases ws <;> simp [stOf]

section Begin
variable {cb : CbId} (k : Kind) {c : Option Call} (hI : Inv s) (h : Coup max s o m []) (hns : Calm s.stack)
  (hlast : m.last = stOf s.ws) (hfresh : cb ∉ s.started)
include hI h hns hlast hfresh

/-- a call that only flushes (AsyncFlush, and the flush before a read) -/
theorem begin_flush (kc : Cont) (hrb : k.isRead = true → s.readBusy = false)
    (hkc : contK kc = [(cb, if k == .read then .f else if k == .readMsg then .m else .w)]) :
    Coup max
      (asyncFlush true { s with stack := .ret :: s.stack, started := s.started ++ [cb],
                                readBusy := if k.isRead then true else s.readBusy } kc)
      { grow s (asyncFlush true { s with stack := .ret :: s.stack, started := s.started ++ [cb],
                                         readBusy := if k.isRead then true else s.readBusy } kc) o c none with
        kinds := (cb, k) :: o.kinds, reader := if k.isRead then some (cb, k == .readMsg) else o.reader }
      (started m cb k) [] := by
  simp only [grow, asyncFlush_submitted, List.drop_length, List.map_nil, List.append_nil]
  refine coup_fl (coup_start k hI h hns hlast hfresh hrb) (asyncFlush_fl _ kc) (hns.cons rfl) (Or.inl hlast) nofun ?_
  intro p hp
  rw [hkc, List.mem_singleton] at hp
  subst hp
  simp only []
  rw [kindOf_cons_self]
  cases k <;> simp [compat, Kind.isRead, LK.isRd]

theorem begin_refuse (r : Res) (hk : k.isRead = false) (hr : r = .cancelled ∨ r = .eof ∨ r = .tooBig)
    (hla : r = .cancelled ∨ r = .eof → s.ws ≠ .active) :
    Coup max (push { s with stack := .ret :: s.stack, started := s.started ++ [cb] } [.invoke cb r false])
      { grow s (push { s with stack := .ret :: s.stack, started := s.started ++ [cb] } [.invoke cb r false]) o c none with
        kinds := (cb, k) :: o.kinds }
      (started m cb k) [] := by
  simp only [grow, push, List.drop_length, List.map_nil, List.append_nil]
  have h1 := coup_start k hI h hns hlast hfresh (fun e => by rw [hk] at e; cases e)
  simp only [hk, Bool.false_eq_true, if_false] at h1
  refine coup_inline h1 (hns.cons rfl) hlast hr ?_ ⟨_, findCb_started m cb k, rfl⟩ ?_
  · rw [kindOf_cons_self]
    exact hk
  · intro h3 e
    exact hla h3 (stOf_active.1 (hlast ▸ e))

theorem begin_submit (ws' : WsState) {f : OutFrame} (hk : k.isRead = false)
    (hws : ws' = s.ws ∨ (s.ws = .active ∧ ws' = .closedByUs))
    (hm : (conc c none f).want.matches (conc c none f).wf = true) :
    Coup max (asyncFlush true (prepare { s with stack := .ret :: s.stack, started := s.started ++ [cb], ws := ws' } f) (.user cb))
      { grow s (asyncFlush true (prepare { s with stack := .ret :: s.stack, started := s.started ++ [cb], ws := ws' } f)
          (.user cb)) o c none with kinds := (cb, k) :: o.kinds }
      { (started m cb k) with expect := m.expect ++ [(conc c none f).want] } [] := by
  simp only [grow, asyncFlush_submitted, prepare, List.drop_left, List.map_cons, List.map_nil]
  have h1 := coup_start k hI h hns hlast hfresh (fun e => by rw [hk] at e; cases e)
  simp only [hk, Bool.false_eq_true, if_false] at h1
  have h2 := coup_prepare ws' (conc c none f) h1 rfl hws hm
  rw [conc_frame] at h2
  refine coup_fl h2 (asyncFlush_fl _ (.user cb)) (hns.cons rfl) (Or.inr (asyncFlush_nopush _ _ (by simp))) nofun ?_
  intro p hp
  rw [List.mem_singleton.1 hp]
  exact ⟨(congrArg Kind.isRead (kindOf_cons_self _ cb k o.reader)).trans hk, nofun⟩

/-- `AsyncWrite` of a message that fits, and `AsyncWriteFrame`: the frame is queued if the stream is active, else the call is
refused -/
theorem begin_app {a : Action} {n : Nat} (hk : k.isRead = false)
    (ha : beginCall true s a =
      if s.ws = .active then
        asyncFlush true (prepare { s with stack := .ret :: s.stack, started := s.started ++ [cb], ws := s.ws } ⟨.app cb, n⟩)
          (.user cb)
      else push { s with stack := .ret :: s.stack, started := s.started ++ [cb] } [.invoke cb .cancelled false])
    (hm : (conc c none ⟨.app cb, n⟩).want.matches (conc c none ⟨.app cb, n⟩).wf = true) :
    Coup max (beginCall true s a) { grow s (beginCall true s a) o c none with kinds := (cb, k) :: o.kinds }
      (if m.last == .active then (started m cb k).push (conc c none ⟨.app cb, n⟩).want else started m cb k) [] := by
  have hact : (m.last == .active) = true ↔ s.ws = .active := by rw [hlast, beq_iff_eq]; exact stOf_active
  rw [ha]
  by_cases hws : s.ws = .active
  · rw [if_pos hws, if_pos (hact.2 hws)]
    exact begin_submit k hI h hns hlast hfresh s.ws hk (Or.inl rfl) hm
  · rw [if_neg hws, if_neg (mt hact.1 hws)]
    exact begin_refuse k hI h hns hlast hfresh .cancelled hk (Or.inl rfl) (fun _ => hws)

end Begin

theorem sim_begin {c : Call} (hI : Inv s) (h : Coup max s o m []) (hns : Calm s.stack) (hlast : m.last = stOf s.ws)
    (hok : callOk s (c.action max) = true) :
    ∃ m', mrun m [c.ev] = .ok m' ∧
      Coup max (beginCall true s (c.action max))
        { grow s (beginCall true s (c.action max)) o (some c) none with
          kinds := (match c.reg with | some p => p :: o.kinds | none => o.kinds),
          reader := (match (generalizing := false) c with
            | .read cb => some (cb, false)
            | .readMsg cb _ => some (cb, true)
            | _ => o.reader) } m' [] := by
  have hact : m.last = .active ↔ s.ws = .active := by rw [hlast]; exact stOf_active
  cases c with
  | poll =>
    refine ⟨{ m with stack := .call none :: m.stack }, mrun_single rfl, ?_⟩
    simp only [grow, Call.action, beginCall, List.drop_length, List.map_nil, List.append_nil]
    obtain ⟨hcur, hexp⟩ := h.of_calm hns
    exact { h with
      stk := by
        show (Sonic.Spec.WsAsync.Frame.call none :: m.stack).map shapeF = (Task.pollRet :: s.stack).filterMap shapeT
        rw [List.map_cons, List.filterMap_cons, h.stk]
        rfl
      spec := hns
      errs := errs_cons nofun h.errs
      last := Or.inl hlast
      exp := fun hh => by
        rw [show pendW _ _ _ = [] from rfl, List.append_nil]
        exact hexp hh
      win := hcur }
  | read cb =>
    obtain ⟨hfresh, hrb⟩ := callOk_cb (cb := cb) rfl hok
    exact ⟨_, mrun_single (start_fresh .read (h.fresh hfresh)),
      begin_flush .read hI h hns hlast hfresh (.readStart cb .frame) (fun _ => hrb rfl) rfl⟩
  | readMsg cb room =>
    obtain ⟨hfresh, hrb⟩ := callOk_cb (cb := cb) rfl hok
    exact ⟨_, mrun_single (start_fresh .readMsg (h.fresh hfresh)),
      begin_flush .readMsg hI h hns hlast hfresh (.readStart cb (.message room false)) (fun _ => hrb rfl) rfl⟩
  | flush cb =>
    have hfresh := (callOk_cb (cb := cb) rfl hok).1
    exact ⟨_, mrun_single (start_fresh .flush (h.fresh hfresh)),
      begin_flush .flush hI h hns hlast hfresh (.user cb) nofun rfl⟩
  | write cb ty len =>
    by_cases hlen : len > max
    · have ha : (Call.write cb ty len).action max = .writeTooBig cb := if_pos hlen
      rw [ha] at hok ⊢
      have hfresh := (callOk_cb (cb := cb) rfl hok).1
      refine ⟨_, mrun_single (step_callWrite (h.fresh hfresh)), ?_⟩
      rw [if_neg (by rw [h.max]; simp; omega)]
      exact begin_refuse .write hI h hns hlast hfresh .tooBig rfl (Or.inr (Or.inr rfl)) (by rintro (e | e) <;> cases e)
    · have ha : (Call.write cb ty len).action max = .write cb (frameSize len) := if_neg hlen
      rw [ha] at hok ⊢
      have hfresh := (callOk_cb (cb := cb) rfl hok).1
      refine ⟨_, mrun_single (step_callWrite (h.fresh hfresh)), ?_⟩
      rw [show (m.last == .active && decide (len ≤ m.max)) = (m.last == .active) by
        rw [h.max, decide_eq_true (Nat.le_of_not_gt hlen), Bool.and_true]]
      exact begin_app .write hI h hns hlast hfresh rfl rfl (matches_exact ..)
  | writeFrame cb fin op len =>
    have hfresh := (callOk_cb (cb := cb) rfl hok).1
    exact ⟨_, mrun_single (step_callWriteFrame (h.fresh hfresh)),
      begin_app .writeFrame hI h hns hlast hfresh rfl rfl (matches_exact ..)⟩
  | close cb code reason =>
    have hfresh := (callOk_cb (cb := cb) rfl hok).1
    refine ⟨_, mrun_single (step_callClose (h.fresh hfresh)), ?_⟩
    have hbc : beginCall true s ((Call.close cb code reason).action max) =
        asyncClose true { s with stack := .ret :: s.stack, started := s.started ++ [cb] }
          ⟨.closeApp cb, frameSize (2 + reason.length)⟩ (.user cb) := rfl
    rw [hbc]
    by_cases hws : s.ws = .active
    · rw [if_pos (by simp [hact.2 hws])]
      have hac : asyncClose true { s with stack := .ret :: s.stack, started := s.started ++ [cb] }
            ⟨.closeApp cb, frameSize (2 + reason.length)⟩ (.user cb) =
          asyncFlush true (prepare { s with stack := .ret :: s.stack, started := s.started ++ [cb], ws := .closedByUs }
            ⟨.closeApp cb, frameSize (2 + reason.length)⟩) (.user cb) := by
        simp only [asyncClose, hws]
      rw [hac]
      exact begin_submit .close hI h hns hlast hfresh .closedByUs rfl (Or.inr ⟨hws, rfl⟩) (matches_exact ..)
    · rw [if_neg (by simp [mt hact.1 hws])]
      -- a stream we closed cancels, a stream the peer closed (or that is gone) reports the end
      obtain ⟨r, hr1, hac⟩ : ∃ r, (r = Res.cancelled ∨ r = Res.eof) ∧
          asyncClose true { s with stack := .ret :: s.stack, started := s.started ++ [cb] }
            ⟨.closeApp cb, frameSize (2 + reason.length)⟩ (.user cb) =
          push { s with stack := .ret :: s.stack, started := s.started ++ [cb] } [.invoke cb r false] := by
        cases hw : s.ws with
        | active => exact absurd hw hws
        | closedByUs => exact ⟨.cancelled, Or.inl rfl, by simp only [asyncClose]⟩
        | closedByPeer => exact ⟨.eof, Or.inr rfl, by simp only [asyncClose]⟩
        | closeAcked => exact ⟨.eof, Or.inr rfl, by simp only [asyncClose]⟩
        | terminated => exact ⟨.eof, Or.inr rfl, by simp only [asyncClose]⟩
      rw [hac]
      exact begin_refuse .close hI h hns hlast hfresh r rfl (hr1.imp_right Or.inl) (fun _ => hws)

theorem sim_call {c : Call} (hI : Inv s) (h : Coup max s o m []) (hs : ostep max prog s o (.call c) = some (s', o', evs)) :
    ∃ m', mrun m evs = .ok m' ∧ Coup max s' o' m' [] := by
  simp only [ostep] at hs
  split at hs
  · cases hs
  · rename_i s1 hst
    simp only [Option.some.injEq, Prod.mk.injEq] at hs
    obtain ⟨rfl, rfl, rfl⟩ := hs
    obtain ⟨s0, hs0, hok, rfl⟩ := of_step_call hst
    rcases hs0 with ⟨hnil, rfl⟩ | ⟨rest, hstk, rfl⟩
    · exact sim_begin hI h (fun t ht => by rw [hnil] at ht; cases ht) (h.last_eq (by rw [hnil]; rfl)) hok
    · exact sim_begin (inv_pop hI hstk rfl) (coup_pop h hstk rfl rfl) (h.calm_rest hstk) (h.last_eq (by rw [hstk]; rfl)) hok

end Sonic.Model.WsAsyncObs
