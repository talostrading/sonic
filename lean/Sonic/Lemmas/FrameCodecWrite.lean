/-
The writing half of the CodecConn model: the blocking and asynchronous transport write loops, `Encode`, and what
`WriteNext`, `AsyncWriteNext` and the write side of `pump` do to a destination buffer that is fully committed.
-/
import Sonic.Lemmas.FrameCodecFacts

namespace Sonic.Lemmas.FrameCodec
open Sonic.Spec.FrameCodec Sonic.Model.FrameCodec

theorem writeLoop_spec (plan : List Nat) (rest : Bytes) (acc : Nat) :
    (writeLoop plan rest acc).1 ≤ acc + rest.length ∧
    ((writeLoop plan rest acc).2.1 = .nil ∨ (writeLoop plan rest acc).2.1 = .wouldblock) ∧
    ((writeLoop plan rest acc).2.1 = .nil → (writeLoop plan rest acc).1 = acc + rest.length) := by
  fun_induction writeLoop plan rest acc with
  | case1 plan acc => exact ⟨Nat.le_refl _, Or.inl rfl, fun _ => rfl⟩
  | case2 rest acc _ => exact ⟨Nat.le_refl _, Or.inl rfl, fun _ => rfl⟩
  | case3 plan rest acc _ => exact ⟨Nat.le_add_right .., Or.inr rfl, fun h => by cases h⟩
  | case4 k plan rest acc _ hk ih =>
    rw [List.length_drop, Nat.add_assoc, Nat.add_sub_of_le (Nat.min_le_right ..)] at ih
    exact ih

theorem writeLoop_pos (plan : List Nat) (rest : Bytes) (acc : Nat) (hpos : ∀ k ∈ plan, k ≠ 0) :
    (writeLoop plan rest acc).2.1 = .nil ∧ (∀ k ∈ (writeLoop plan rest acc).2.2, k ≠ 0) := by
  fun_induction writeLoop plan rest acc with
  | case1 plan acc => exact ⟨rfl, hpos⟩
  | case2 rest acc _ => exact ⟨rfl, hpos⟩
  | case3 plan rest acc _ => exact absurd rfl (hpos 0 (List.mem_cons_self ..))
  | case4 k plan rest acc _ hk ih => exact ih fun q hq => hpos q (List.mem_cons_of_mem _ hq)

theorem pumpLoop_spec (plan : List Nat) (rest : Bytes) (done : Nat) :
    done ≤ (pumpLoop plan rest done).2.1 ∧ (pumpLoop plan rest done).2.1 ≤ done + rest.length ∧
    (pumpLoop plan rest done).1 =
      if (pumpLoop plan rest done).2.1 = done + rest.length then some (done + rest.length) else none := by
  fun_induction pumpLoop plan rest done with
  | case1 rest done => exact ⟨Nat.le_add_right .., Nat.le_refl _, (if_pos rfl).symm⟩
  | case2 k plan rest done h =>
    have hl : (rest.drop (min k rest.length)).length = rest.length - min k rest.length := List.length_drop
    rw [h, List.length_nil] at hl
    rw [Nat.le_antisymm (Nat.min_le_right ..) (Nat.le_of_sub_eq_zero hl.symm)]
    exact ⟨Nat.le_add_right .., Nat.le_refl _, (if_pos rfl).symm⟩
  | case3 k plan rest done h h0 =>
    have hpos : 0 < (rest.drop (min k rest.length)).length := List.length_pos_iff.mpr h
    rw [List.length_drop] at hpos
    refine ⟨Nat.le_refl _, Nat.le_add_right .., (if_neg ?_).symm⟩
    show ¬ done = done + rest.length
    omega
  | case4 k plan rest done h h0 ih =>
    obtain ⟨i1, i2, i3⟩ := ih
    rw [List.length_drop, Nat.add_assoc, Nat.add_sub_of_le (Nat.min_le_right ..)] at i2 i3
    exact ⟨Nat.le_trans (Nat.le_add_right ..) i1, i2, i3⟩

theorem encode_big (limit slack : Nat) (b : BB) (p : Bytes) (h : p.length > limit) :
    encode limit slack b p = (b, .tooBig) := by
  unfold encode; rw [if_pos h]

theorem encode_commit (limit slack : Nat) (b : BB) (p : Bytes) (hri : b.ri = b.data.length)
    (hcap : b.data.length ≤ b.cap) (hp : ¬ p.length > limit) :
    ∃ bb, (∃ b', encode limit slack b p = (b', .ok) ∧ b'.commit b'.writeLen = bb) ∧
      bb.data = b.data ++ frame p ∧ bb.ri = bb.data.length ∧ bb.data.length ≤ bb.cap := by
  have hroom := reserve_room b (headerLen + p.length) slack hcap
  have e_data := reserve_data b (headerLen + p.length) slack
  have e_ri := reserve_ri b (headerLen + p.length) slack
  unfold encode
  rw [if_neg hp]
  simp only
  generalize b.reserve (headerLen + p.length) slack = b0 at *
  rw [e_data]
  have h2 : headerLen + p.length ≤ b0.cap - b.data.length := Nat.le_sub_of_add_le' hroom
  rw [if_neg (Nat.not_lt.mpr (Nat.le_trans (Nat.le_add_right ..) h2)), if_pos h2]
  have hl : (b0.data ++ (be32 p.length ++ p)).length = b.data.length + (headerLen + p.length) := by
    rw [e_data, List.length_append, ← frame, frame_length]; rfl
  refine ⟨_, ⟨_, rfl, commit_all _ ?_⟩, ?_, rfl, ?_⟩
  · show b0.ri ≤ (b0.data ++ (be32 p.length ++ p)).length
    rw [hl, e_ri, hri]; exact Nat.le_add_right ..
  · show b0.data ++ (be32 p.length ++ p) = _
    rw [e_data]; rfl
  · show (b0.data ++ (be32 p.length ++ p)).length ≤ b0.cap
    rw [hl]; exact hroom

def SameR (c c' : Conn) : Prop :=
  c'.src = c.src ∧ c'.dec = c.dec ∧ c'.tr.inq = c.tr.inq ∧ c'.tr.eof = c.tr.eof ∧ c'.rpend = c.rpend

theorem SameR.refl (c : Conn) : SameR c c := ⟨rfl, rfl, rfl, rfl, rfl⟩

theorem SameR.trans {a b c : Conn} (h1 : SameR a b) (h2 : SameR b c) : SameR a c := by
  obtain ⟨a1, a2, a3, a4, a5⟩ := h1
  obtain ⟨b1, b2, b3, b4, b5⟩ := h2
  exact ⟨b1.trans a1, b2.trans a2, b3.trans a3, b4.trans a4, b5.trans a5⟩

theorem writeNext_busy (limit slack : Nat) (c : Conn) (p : Bytes) {pw : PW} (hw : c.wpend = some pw) :
    writeNext limit slack c p = (c, wobs c .busy 0 .nil []) := by
  simp only [writeNext, hw, Option.isSome_some, if_true]

theorem writeNext_big (limit slack : Nat) (c : Conn) (p : Bytes) (hw : c.wpend = none) (h : p.length > limit) :
    writeNext limit slack c p = (c, wobs c .done 0 .toobig []) := by
  simp only [writeNext, hw, Option.isSome_none, Bool.false_eq_true, if_false, encode_big limit slack c.dst p h]

/-- The clauses speak of the result `r` of the call and the result `o` of the transport's write loop through the
equations `hr`, `ho`, so that a caller may give the two a name first; a caller that has not passes `rfl`. -/
theorem writeNext_idle (limit slack : Nat) (c : Conn) (p : Bytes) (hw : c.wpend = none)
    (hri : c.dst.ri = c.dst.data.length) (hcap : c.dst.data.length ≤ c.dst.cap) (hp : ¬ p.length > limit)
    {r : Conn × WObs} (hr : writeNext limit slack c p = r)
    {o : Nat × Err × List Nat} (ho : writeLoop c.tr.plan (c.dst.data ++ frame p) 0 = o) :
    SameR c r.1 ∧ r.1.wpend = none ∧ r.1.tr.plan = o.2.2 ∧ r.1.dst.data = (c.dst.data ++ frame p).drop o.1 ∧
    r.1.dst.ri = r.1.dst.data.length ∧ r.1.dst.data.length ≤ r.1.dst.cap ∧
    r.2 = { stat := .done, n := o.1, err := o.2.1, out := (c.dst.data ++ frame p).take o.1,
            rlen := (c.dst.data ++ frame p).length - o.1, wlen := 0 } := by
  obtain ⟨bb, ⟨b', he, hcm⟩, hd, hbr, hc⟩ := encode_commit limit slack c.dst p hri hcap hp
  obtain ⟨l2, _, _⟩ := writeLoop_spec c.tr.plan (c.dst.data ++ frame p) 0
  subst hr
  unfold writeNext
  simp only [hw, Option.isSome_none, Bool.false_eq_true, if_false, he, hcm, view_committed bb hbr, hd, ho]
  rw [ho] at l2
  obtain ⟨w, e, plan'⟩ := o
  simp only at l2 ⊢
  rw [Nat.zero_add] at l2
  obtain ⟨hc1, hc2⟩ := consume_committed bb w hbr (by rw [hd]; exact l2)
  rw [hd] at hc1 hc2
  refine ⟨SameR.refl c, trivial, trivial, hc1, ?_, ?_, ?_⟩
  · rw [hc1, hc2, List.length_drop]
  · rw [consume_cap, hc1, List.length_drop, ← hd]; exact Nat.le_trans (Nat.sub_le ..) hc
  · simp only [wobs, BB.readLen, BB.writeLen, hc1, hc2, List.length_drop, Nat.sub_self]

theorem asyncWriteNext_busy (limit slack : Nat) (c : Conn) (p : Bytes) {pw : PW} (hw : c.wpend = some pw) :
    asyncWriteNext limit slack c p = (c, wobs c .busy 0 .nil []) := by
  simp only [asyncWriteNext, hw, Option.isSome_some, if_true]

theorem asyncWriteNext_big (limit slack : Nat) (c : Conn) (p : Bytes) (hw : c.wpend = none) (h : p.length > limit) :
    asyncWriteNext limit slack c p = (c, wobs c .done 0 .toobig []) := by
  simp only [asyncWriteNext, hw, Option.isSome_none, Bool.false_eq_true, if_false, encode_big limit slack c.dst p h]

theorem asyncWriteNext_idle (limit slack : Nat) (c : Conn) (p : Bytes) (hw : c.wpend = none)
    (hri : c.dst.ri = c.dst.data.length) (hcap : c.dst.data.length ≤ c.dst.cap) (hp : ¬ p.length > limit) :
    ∃ c1, SameR c c1 ∧ c1.dst.data = c.dst.data ++ frame p ∧ c1.dst.ri = c1.dst.data.length ∧
      c1.dst.data.length ≤ c1.dst.cap ∧ c1.wpend = some { buf := c.dst.data ++ frame p, done := 0 } ∧
      asyncWriteNext limit slack c p =
        if c.tr.deferW then (c1, wobs c1 .pending 0 .nil []) else pumpWrite c1 := by
  obtain ⟨bb, ⟨b', he, hcm⟩, hd, hr, hc⟩ := encode_commit limit slack c.dst p hri hcap hp
  refine ⟨{ c with dst := bb, wpend := some { buf := c.dst.data ++ frame p, done := 0 } }, SameR.refl c, hd, hr, hc,
    rfl, ?_⟩
  unfold asyncWriteNext
  simp only [hw, Option.isSome_none, Bool.false_eq_true, if_false, he, hcm, view_committed bb hr, hd]

theorem pumpWrite_spec (c : Conn) (pw : PW) (hw : c.wpend = some pw) (hbuf : pw.buf = c.dst.data)
    (hri : c.dst.ri = c.dst.data.length) (hdone : pw.done ≤ pw.buf.length) :
    SameR c (pumpWrite c).1 ∧
    (((pumpWrite c).2 = { stat := .done, n := pw.buf.length, err := .nil, out := pw.buf.drop pw.done, rlen := 0, wlen := 0 } ∧
        (pumpWrite c).1.dst.data = [] ∧ (pumpWrite c).1.dst.ri = 0 ∧ (pumpWrite c).1.wpend = none) ∨
     (∃ d', pw.done ≤ d' ∧ d' < pw.buf.length ∧
        (pumpWrite c).2 = { stat := .pending, n := 0, err := .nil, out := (pw.buf.drop pw.done).take (d' - pw.done),
                            rlen := c.dst.ri, wlen := 0 } ∧
        (pumpWrite c).1.dst = c.dst ∧ (pumpWrite c).1.wpend = some { buf := pw.buf, done := d' })) := by
  obtain ⟨l1, l2, l3⟩ := pumpLoop_spec c.tr.plan (pw.buf.drop pw.done) pw.done
  have hfull : pw.done + (pw.buf.drop pw.done).length = pw.buf.length := by
    rw [List.length_drop, Nat.add_sub_of_le hdone]
  rw [hfull] at l2 l3
  unfold pumpWrite
  rw [hw]
  simp only
  generalize pumpLoop c.tr.plan (pw.buf.drop pw.done) pw.done = o at *
  obtain ⟨r, d', plan'⟩ := o
  simp only at l1 l2 l3
  by_cases hd : d' = pw.buf.length
  · obtain ⟨hc1, hc2⟩ := consume_committed c.dst pw.buf.length hri (by rw [hbuf]; exact Nat.le_refl _)
    rw [← hbuf, List.drop_length] at hc1
    rw [← hbuf, Nat.sub_self] at hc2
    rw [if_pos hd] at l3
    subst l3
    refine ⟨SameR.refl c, Or.inl ⟨?_, hc1, hc2, rfl⟩⟩
    simp only [wobs, BB.readLen, BB.writeLen, hc1, hc2, hd]
    rw [List.take_of_length_le (by rw [List.length_drop]; exact Nat.le_refl _)]
    rfl
  · rw [if_neg hd] at l3
    subst l3
    refine ⟨SameR.refl c, Or.inr ⟨d', l1, Nat.lt_of_le_of_ne l2 hd, ?_, rfl, rfl⟩⟩
    simp only [wobs, BB.readLen, BB.writeLen, hri, Nat.sub_self]

structure WClean (c : Conn) : Prop where
  data : c.dst.data = []
  ri : c.dst.ri = 0
  idle : c.wpend = none
  plan : ∀ k ∈ c.tr.plan, k ≠ 0

theorem writeNext_clean (limit slack : Nat) (c : Conn) (p : Bytes) (h : WClean c) (hp : p.length ≤ limit) :
    (writeNext limit slack c p).2 = { stat := .done, n := (frame p).length, err := .nil, out := frame p, rlen := 0, wlen := 0 } ∧
    WClean (writeNext limit slack c p).1 := by
  obtain ⟨_, hwp, hplan, hdata, hri, _, hobs⟩ := writeNext_idle limit slack c p h.idle (by rw [h.ri, h.data]; rfl)
    (by rw [h.data]; exact Nat.zero_le _) (Nat.not_lt.mpr hp) rfl rfl
  obtain ⟨q1, q2⟩ := writeLoop_pos c.tr.plan (c.dst.data ++ frame p) 0 h.plan
  have hn := (writeLoop_spec c.tr.plan (c.dst.data ++ frame p) 0).2.2 q1
  rw [hn, q1, h.data] at hobs
  rw [hn, h.data] at hdata
  simp only [List.nil_append, Nat.zero_add, List.drop_length, List.take_length, Nat.sub_self] at hdata hobs
  exact ⟨hobs, hdata, by rw [hri, hdata]; rfl, hwp, by rw [hplan]; exact q2⟩

theorem writeMany_spec (limit : Nat) : ∀ (ps : List Bytes) (sl : List Nat) (c : Conn), WClean c → (∀ p ∈ ps, p.length ≤ limit) →
    sent (writeMany limit sl c ps) = wire ps ∧
    (∀ o ∈ writeMany limit sl c ps, o.stat = .done ∧ o.err = .nil ∧ o.rlen = 0 ∧ o.wlen = 0) := by
  intro ps
  induction ps with
  | nil => intro sl c _ _; exact ⟨rfl, fun o h => by cases h⟩
  | cons p ps ih =>
    intro sl c hc hps
    obtain ⟨h1, h2⟩ := writeNext_clean limit (sl.headD 0) c p hc (hps p (List.mem_cons_self ..))
    obtain ⟨i1, i2⟩ := ih sl.tail _ h2 (fun q hq => hps q (List.mem_cons_of_mem _ hq))
    simp only [writeMany]
    refine ⟨?_, ?_⟩
    · simp only [sent, List.map_cons, List.flatten_cons, wire]
      simp only [sent] at i1
      rw [i1, h1]
    · intro o ho
      simp only [List.mem_cons] at ho
      rcases ho with rfl | ho
      · rw [h1]; exact ⟨rfl, rfl, rfl, rfl⟩
      · exact i2 o ho

end Sonic.Lemmas.FrameCodec
