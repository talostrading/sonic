/-
`LInv` (LoopLedgerInv.lean) is preserved by every transition of the loop model.
-/
import Sonic.Lemmas.LoopLedgerInv
import Sonic.Lemmas.LoopStep

namespace Sonic.Model.Loop
open Sonic.Spec.Loop (Ev Ret Res OpKind ObjKind maxDispatch)

theorem armTimer_linv {w : World} {o : Obj} {k op : Nat} {rep : Bool} {info : OpInfo} (hI : LInv w) (hg : getObj w k = some o)
    (hop : opIn w.ops op = some info) (hobj : info.obj = o.id) (hk : info.kind.isTimer = true) (hkt : o.kind = .timer)
    {st : List K} (hst : ∀ f ∈ st, f ∈ w.stack ∨ FrameOk w.ops f) : LInv { (armTimer w o op rep) with stack := st } := by
  refine linv_setObj hI (armTimer_objs w o op rep) (armTimer_posts w o op rep) (armTimer_ops w o op rep) ?_ hst
  refine hobj_setR (o := o) (op := op) (info := info) (hobj_of_getObj hI hg) rfl rfl ⟨rfl, rfl⟩ ⟨rfl, rfl⟩ hop hobj ?_ (fun _ => ⟨hk, rfl⟩)
    (fun hnt => absurd hkt hnt)
  intro hp; rw [hp] at hk; cases hk

theorem delRead_linv {w : World} {o : Obj} {k : Nat} (hI : LInv w) (hg : getObj w k = some o) {st : List K}
    (hst : ∀ f ∈ st, f ∈ w.stack ∨ FrameOk w.ops f) : LInv { (delRead w o) with stack := st } := by
  unfold delRead
  split
  · exact linv_setObj (o' := { o with evR := false, registered := o.evW }) hI rfl rfl rfl
      (hobj_keep (hobj_of_getObj hI hg) rfl rfl (Or.inl rfl) (Or.inr ⟨rfl, rfl⟩) (fun he => by cases he)) hst
  · exact linv_same hI rfl rfl rfl hst

theorem delWrite_linv {w : World} {o : Obj} {k : Nat} (hI : LInv w) (hg : getObj w k = some o) {st : List K}
    (hst : ∀ f ∈ st, f ∈ w.stack ∨ FrameOk w.ops f) : LInv { (delWrite w o) with stack := st } := by
  unfold delWrite
  split
  · exact linv_setObj (o' := { o with evW := false, registered := o.evR }) hI rfl rfl rfl
      (hobj_keep (hobj_of_getObj hI hg) rfl rfl (Or.inr ⟨rfl, rfl⟩) (Or.inl rfl) (fun _ => Or.inr rfl)) hst
  · exact linv_same hI rfl rfl rfl hst

theorem setRead_linv {w : World} {o : Obj} {k op : Nat} {info : OpInfo} (hI : LInv w) (hg : getObj w k = some o) {st : List K}
    (hst : ∀ f ∈ st, f ∈ w.stack ∨ FrameOk w.ops f) (hop : opIn w.ops op = some info) (hobj : info.obj = o.id)
    (hnp : info.kind ≠ .post) (hnt : o.kind ≠ .timer) (hr : info.kind.isRead = true) : LInv { (setRead w o op) with stack := st } := by
  unfold setRead
  split
  · rename_i he
    exact linv_setObj (o' := { o with hR := op, registered := true }) hI rfl rfl rfl
      (hobj_setR (o := o) (hobj_of_getObj hI hg) rfl rfl ⟨he, rfl⟩ ⟨rfl, rfl⟩ hop hobj hnp (fun hk => absurd hk hnt) (fun _ => hr)) hst
  · exact linv_setObj (o' := { o with hR := op, evR := true, registered := true }) hI rfl rfl rfl
      (hobj_setR (o := o) (hobj_of_getObj hI hg) rfl rfl ⟨rfl, rfl⟩ ⟨rfl, rfl⟩ hop hobj hnp (fun hk => absurd hk hnt) (fun _ => hr)) hst

theorem setWrite_linv {w : World} {o : Obj} {k op : Nat} {info : OpInfo} (hI : LInv w) (hg : getObj w k = some o) {st : List K}
    (hst : ∀ f ∈ st, f ∈ w.stack ∨ FrameOk w.ops f) (hop : opIn w.ops op = some info) (hobj : info.obj = o.id)
    (hnp : info.kind ≠ .post) (hnt : o.kind ≠ .timer) (hw : info.kind.isWrite = true) : LInv { (setWrite w o op) with stack := st } := by
  unfold setWrite
  split
  · rename_i he
    exact linv_setObj (o' := { o with hW := op, registered := true }) hI rfl rfl rfl
      (hobj_setW (o := o) (hobj_of_getObj hI hg) rfl rfl hnt ⟨he, rfl⟩ ⟨rfl, rfl⟩ hop hobj hnp hw) hst
  · exact linv_setObj (o' := { o with hW := op, evW := true, registered := true }) hI rfl rfl rfl
      (hobj_setW (o := o) (hobj_of_getObj hI hg) rfl rfl hnt ⟨rfl, rfl⟩ ⟨rfl, rfl⟩ hop hobj hnp hw) hst

theorem closeObj_linv {w : World} {o : Obj} {k : Nat} (hI : LInv w) (hg : getObj w k = some o) {st : List K}
    (hst : ∀ f ∈ st, f ∈ w.stack ∨ FrameOk w.ops f) : LInv { (closeObj w o) with stack := st } := by
  unfold closeObj
  by_cases hkt : (o.kind == .timer) = true
  · rw [if_pos hkt]
    exact linv_setObj (o' := { o with evR := false, tstate := .closed }) hI rfl rfl rfl
      (hobj_keep (hobj_of_getObj hI hg) rfl rfl (Or.inl rfl) (Or.inr ⟨rfl, rfl⟩) (fun he => by cases he)) hst
  · rw [if_neg hkt]
    exact linv_setObj (o' := { o with evR := false, evW := false, closed := true, registered := false }) hI rfl rfl rfl
      (hobj_keep (hobj_of_getObj hI hg) rfl rfl (Or.inl rfl) (Or.inl rfl) (fun he => by cases he)) hst

theorem linv_grow {w : World} {i0 : OpInfo} {f : K} (hI : LInv w) (hf : getOp w i0.id = none)
    (hfo : FrameOk (i0 :: w.ops) f) : LInv { w with ops := i0 :: w.ops, stack := f :: w.stack } := by
  refine ⟨fun o ho => hobj_mono (opIn_cons_fresh hf) (hI.objs o ho), fun p hp => opIn_cons_fresh hf (hI.posts p hp), ?_⟩
  intro g hg
  rcases List.mem_cons.1 hg with rfl | hg
  · exact hfo
  · exact frameOk_mono (opIn_cons_fresh hf) (hI.frames g hg)

/-- The frame of the handler is already popped. -/
theorem afterRule_linv {w w' : World} {op : Nat} {a : After} (hrule : AfterRule w op a w') (hI : LInv w)
    (hf : FrameOk w.ops (.user op a)) : LInv w' := by
  cases hrule with
  | decDisp => exact linv_same hI rfl rfl rfl (fun f hf => Or.inl hf)
  | postDone => exact linv_same hI rfl rfl rfl (fun f hf => Or.inl hf)
  | timerStop hobj =>
    exact linv_setObj hI rfl rfl rfl
      (hobj_keep (hobj_of_getObj hI hobj) rfl rfl (Or.inr ⟨rfl, rfl⟩) (Or.inr ⟨rfl, rfl⟩) (fun _ => Or.inl rfl)) (fun f hf => Or.inl hf)
  | @timerRearm k cb o hobj hkind =>
    exact armTimer_linv hI hobj hf (getObj_id hobj).symm rfl hkind
      (fun f hf => Or.inl (by rw [← armTimer_stack w o op true]; exact hf))
  | _ => exact hI

theorem step_linv (w w' : World) (e : Ev) (hI : LInv w) (h : step w e = some w') : LInv w' := by
  cases step_sound h with
  | newObj hstk hfresh =>
    refine ⟨?_, hI.posts, hI.frames⟩
    intro o hm
    rcases List.mem_cons.1 hm with rfl | hm
    · exact ⟨fun he => (by cases he), fun he => (by cases he), fun _ he => (by cases he)⟩
    · exact hI.objs o hm
  | exit hstk hrule => exact afterRule_linv hrule (linv_same hI rfl rfl rfl (sub_tail hstk)) (top_frameOk hI hstk)
  | cancel hstk hrule =>
    cases hrule with
    | read hobj => exact delRead_linv hI hobj (sub_tail2 hstk trivial trivial)
    | write hobj => exact delWrite_linv hI hobj (sub_tail2 hstk trivial trivial)
    | done => exact linv_same hI rfl rfl rfl (sub_tail hstk)
  | inline hstk | startFail hstk =>
    -- `FrameOk` does not read the flag of the frame of the starting call
    have hf := top_frameOk hI hstk
    exact linv_same hI rfl rfl rfl (sub_tail2 hstk trivial hf)
  | deferRead hstk hobj hopen hkind hdir =>
    have hf := top_frameOk hI hstk
    exact setRead_linv hI hobj (sub_tail hstk) hf.1 (getObj_id hobj).symm (isIO_not_post hf.2) hkind hdir
  | deferWrite hstk hobj hopen hkind hdir =>
    have hf := top_frameOk hI hstk
    exact setWrite_linv hI hobj (sub_tail hstk) hf.1 (getObj_id hobj).symm (isIO_not_post hf.2) hkind (isWrite_of_isIO hf.2 hdir)
  | close hstk hobj => exact closeObj_linv hI hobj (sub_tail hstk)
  | schedNow hstk hobj =>
    have hf := top_frameOk hI hstk
    exact linv_setObj hI rfl rfl rfl
      (hobj_keep (hobj_of_getObj hI hobj) rfl rfl (Or.inr ⟨rfl, rfl⟩) (Or.inr ⟨rfl, rfl⟩) (fun _ => Or.inl rfl))
      (sub_tail2 hstk trivial hf)
  | @arm op k rep _ _ _ hstk hobj hpos hready hkind =>
    exact armTimer_linv hI hobj (top_frameOk hI hstk) (getObj_id hobj).symm (by cases rep <;> rfl) hkind (sub_tail hstk)
  | tcancel hstk hobj =>
    exact linv_setObj hI rfl rfl rfl
      (hobj_keep (hobj_of_getObj hI hobj) rfl rfl (Or.inl rfl) (Or.inr ⟨rfl, rfl⟩) (fun he => by cases he)) (sub_tail hstk)
  | posted hstk =>
    refine ⟨hI.objs, fun p hp => ?_, fun g hg => hI.frames g (by rw [hstk]; exact List.mem_cons_of_mem _ hg)⟩
    rcases List.mem_append.1 hp with h1 | h1
    · exact hI.posts p h1
    · rw [List.mem_singleton.1 h1]; exact top_frameOk hI hstk
  | poll hstk hrule =>
    cases hrule with
    | post hop hkind hqueue =>
      exact ⟨hI.objs, fun p hp => hI.posts p (by rw [hqueue]; exact List.mem_cons_of_mem _ hp),
        fun f hf => (sub_tail2 hstk (by trivial) (by trivial) f hf).elim (hI.frames f) id⟩
    | @timer info o hop hkind hobj hokind hset hhandler =>
      refine linv_setObj hI rfl rfl rfl
        (hobj_keep (hobj_of_getObj hI hobj) rfl rfl (Or.inl rfl) (Or.inr ⟨rfl, rfl⟩) (fun he => by cases he)) (sub_tail2 hstk ?_ trivial)
      -- the frame of a repeating schedule's callback names the operation as the table records it
      cases hk : (info.kind == OpKind.timerRep) with
      | false => trivial
      | true =>
        show opIn w.ops _ = some ⟨_, o.id, .timerRep⟩
        rw [← getOp_eq, hop, getObj_id hobj, ← opIn_id hop, ← (beq_iff_eq.1 hk)]
    | read hop hnopost hnotimer hobj => exact delRead_linv hI hobj (sub_tail2 hstk trivial trivial)
    | write hop hnopost hnotimer hobj => exact delWrite_linv hI hobj (sub_tail2 hstk trivial trivial)
  | pop hstk => exact linv_same hI rfl rfl rfl (sub_tail hstk)
  | push huser hcall =>
    refine linv_same hI rfl rfl rfl fun g hg => ?_
    rcases List.mem_cons.1 hg with rfl | hg
    · exact Or.inr (by cases hcall <;> trivial)
    · exact Or.inl hg
  | callStart huser hobj hfresh hkind hio => exact linv_grow hI hfresh ⟨opIn_cons_self, hio⟩
  | callSched huser hobj hfresh | callPost huser hfresh => exact linv_grow hI hfresh opIn_cons_self
  | setDisp =>
    refine linv_same hI rfl rfl rfl fun g hg => ?_
    rcases List.mem_cons.1 hg with rfl | hg
    · exact Or.inr trivial
    · exact Or.inl hg

end Sonic.Model.Loop
