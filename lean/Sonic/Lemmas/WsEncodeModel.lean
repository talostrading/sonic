/-
Facts about the frame building model (`Model/WsEncode.lean`): what `AcquireFrame … SetPayload … MaskPayload … Encode`
put on the wire, for an arbitrary pooled slice.
-/
import Sonic.Model.WsWritePath
import Sonic.Spec.WsWire
import Sonic.Lemmas.WsDecode
import Sonic.Lemmas.WsEncodeSpec

namespace Sonic.Model.WsEncode
open Sonic.Model.WsBuf Sonic.Model.WsFrame Sonic.Spec.WsFrame

/-- First header byte after `SetFIN?` and `SetOpcode(c)` on a zero byte. -/
def hb0 (fin : Bool) (c : UInt8) : UInt8 := (((if fin then (0 : UInt8) ||| 0x80 else 0) &&& 0xf0) ||| (c &&& 0x0f))

theorem modify0 {a0 a1 : UInt8} {rest : List UInt8} {len : Nat} {g : UInt8 → UInt8} (h : 0 < len) :
    PFrame.modify ⟨a0 :: a1 :: rest, len⟩ 0 g = .ok ⟨g a0 :: a1 :: rest, len⟩ := by
  unfold PFrame.modify
  rw [if_pos ⟨h, by simp⟩]; rfl

theorem modify1 {a0 a1 : UInt8} {rest : List UInt8} {len : Nat} {g : UInt8 → UInt8} (h : 1 < len) :
    PFrame.modify ⟨a0 :: a1 :: rest, len⟩ 1 g = .ok ⟨a0 :: g a1 :: rest, len⟩ := by
  unfold PFrame.modify
  rw [if_pos ⟨h, by simp⟩]; rfl

/-- `AcquireFrame` (client), `SetFIN?`, `SetOpcode`, followed by the rest of a computation. -/
theorem header_bind {β : Type} {a1 : UInt8} {rest : List UInt8} {len : Nat} {fin : Bool} {c : UInt8} (h : 2 ≤ len)
    (k : PFrame → M β) :
    (do let f ← PFrame.SetIsMasked ⟨0 :: a1 :: rest, len⟩
        let f ← if fin then f.SetFIN else pure f
        let f ← f.SetOpcode c
        k f) = k ⟨hb0 fin c :: (a1 ||| 0x80) :: rest, len⟩ := by
  unfold PFrame.SetIsMasked PFrame.SetFIN PFrame.SetOpcode hb0
  rw [modify1 (by omega)]
  cases fin <;> simp only [ebind_ok, epure, if_true, if_false, Bool.false_eq_true, modify0 (show 0 < len by omega)]

theorem header_eq (a1 : UInt8) (rest : List UInt8) (len : Nat) (fin : Bool) (c : UInt8) (h : 2 ≤ len) :
    (do let f ← PFrame.SetIsMasked ⟨0 :: a1 :: rest, len⟩
        let f ← if fin then f.SetFIN else pure f
        f.SetOpcode c) = (.ok ⟨hb0 fin c :: (a1 ||| 0x80) :: rest, len⟩ : M PFrame) := by
  have := header_bind (a1 := a1) (rest := rest) (fin := fin) (c := c) h pure
  simp only [bind_pure] at this
  exact this

def extBytes (n : Nat) : List UInt8 :=
  if n > 65535 then beBytes 8 (n % 2 ^ 64) else if n > 125 then beBytes 2 n else []

/-- Low seven bits of the second header byte. -/
def len7 (n : Nat) : UInt8 := if n > 65535 then 127 else if n > 125 then 126 else UInt8.ofNat n

theorem copyAt2 {b0 b1 : UInt8} {rest src : List UInt8} {len : Nat} (h14 : 14 ≤ len) (hlen : len ≤ 2 + rest.length)
    (hs : src.length ≤ 8) :
    PFrame.copyAt ⟨b0 :: b1 :: rest, len⟩ 2 src = .ok ⟨b0 :: b1 :: (src ++ rest.drop src.length), len⟩ := by
  unfold PFrame.copyAt
  dsimp only
  rw [if_pos ⟨by omega, by simp only [List.length_cons]; omega⟩]
  have hk : min (len - 2) src.length = src.length := by omega
  rw [hk, List.take_length]
  have hd : List.drop (2 + src.length) (b0 :: b1 :: rest) = List.drop src.length rest := by
    rw [Nat.add_comm]; rfl
  rw [hd]; rfl

theorem setPayloadLength_eq (b0 b1 : UInt8) (rest : List UInt8) (len n : Nat) (h2 : 2 ≤ len) (hlen : len ≤ 2 + rest.length)
    (h12 : 12 ≤ rest.length) :
    PFrame.setPayloadLength ⟨b0 :: b1 :: rest, len⟩ n =
      .ok ⟨b0 :: ((b1 &&& 0x80) ||| len7 n) :: (extBytes n ++ rest.drop (extBytes n).length), if len < 14 then 14 else len⟩ := by
  unfold PFrame.setPayloadLength
  have hext : (if len < frameMaxHeaderLength then PFrame.extend ⟨b0 :: b1 :: rest, len⟩ frameMaxHeaderLength else ⟨b0 :: b1 :: rest, len⟩)
      = ⟨b0 :: b1 :: rest, if len < 14 then 14 else len⟩ := by
    unfold frameMaxHeaderLength PFrame.extend
    by_cases hl : len < 14
    · rw [if_pos hl, if_pos hl]
      dsimp only
      rw [if_neg (by simp only [List.length_cons]; omega)]
    · rw [if_neg hl, if_neg hl]
  simp only [hext]
  have hl' : 14 ≤ (if len < 14 then 14 else len) := by split <;> omega
  have hl'' : (if len < 14 then 14 else len) ≤ 2 + rest.length := by split <;> omega
  rw [modify1 (by omega)]
  simp only [ebind_ok]
  unfold len7 extBytes
  by_cases c1 : n > 65535
  · rw [if_pos c1, if_pos c1, if_pos c1, modify1 (by omega)]
    simp only [ebind_ok]
    unfold PFrame.putBE
    dsimp only
    rw [if_pos ⟨by omega, by omega⟩, copyAt2 hl' hl'' (by rw [length_beBytes]; omega)]
  · rw [if_neg c1, if_neg c1, if_neg c1]
    by_cases c2 : n > 125
    · rw [if_pos c2, if_pos c2, if_pos c2, modify1 (by omega)]
      simp only [ebind_ok]
      unfold PFrame.putBE
      dsimp only
      rw [if_pos ⟨by omega, by omega⟩, copyAt2 hl' hl'' (by rw [length_beBytes]; omega)]
    · rw [if_neg c2, if_neg c2, if_neg c2, modify1 (by omega)]
      simp only [List.length_nil, List.drop_zero, List.nil_append]

theorem copyAt_mid {A B C src : List UInt8} {len off : Nat} (hoff : off = A.length) (hs : src.length = B.length)
    (hl : A.length + B.length ≤ len) (hl2 : len ≤ (A ++ B ++ C).length) :
    PFrame.copyAt ⟨A ++ B ++ C, len⟩ off src = .ok ⟨A ++ src ++ C, len⟩ := by
  subst hoff
  unfold PFrame.copyAt
  dsimp only
  rw [if_pos ⟨by omega, hl2⟩]
  have hk : min (len - A.length) src.length = src.length := by omega
  have ht : (A ++ B ++ C).take A.length = A := by rw [List.append_assoc]; exact List.take_left' rfl
  have hd : (A ++ B ++ C).drop (A.length + src.length) = C := by
    rw [hs]; exact List.drop_left' (by rw [List.length_append])
  rw [hk, List.take_length, ht, hd]
  rfl

/-- The header is consistent: `E` are the extended length bytes announced by `b1`, the mask bit is set, and the
declared length is `n`, which fits a Go `int`. -/
structure HdrOk (b1 : UInt8) (E : List UInt8) (n : Nat) : Prop where
  ext : extLen b1.toNat = E.length
  masked : b1.toNat ≥ 128
  decl : (if extLen b1.toNat = 0 then b1.toNat % 128 else beNat E) = n
  small : n < 2 ^ 63

theorem layout_bytes {b0 b1 : UInt8} {E K P T : List UInt8} (hM : K.length = 4) :
    (PFrame.mk (b0 :: b1 :: (E ++ K ++ P ++ T)) (2 + E.length + 4 + P.length)).bytes = b0 :: b1 :: (E ++ K ++ P) := by
  unfold PFrame.bytes
  dsimp only
  have : 2 + E.length + 4 + P.length = (b0 :: b1 :: (E ++ K ++ P)).length := by
    simp only [List.length_cons, List.length_append, hM]; omega
  rw [this]
  have e : b0 :: b1 :: (E ++ K ++ P ++ T) = (b0 :: b1 :: (E ++ K ++ P)) ++ T := by simp only [List.append_assoc, List.cons_append]
  rw [e, List.take_left' rfl]

theorem layout_offsets {b0 b1 : UInt8} {E K P : List UInt8} {n : Nat} (h : HdrOk b1 E n) :
    maskOffset (b0 :: b1 :: (E ++ K ++ P)) = .ok (2 + E.length) ∧
    payloadOffset (b0 :: b1 :: (E ++ K ++ P)) = .ok (2 + E.length + 4) := by
  have h2 : 2 ≤ (b0 :: b1 :: (E ++ K ++ P)).length := by simp only [List.length_cons, List.length_append]; omega
  have hm : decide (b1.toNat ≥ 128) = true := by simpa using h.masked
  unfold maskOffset payloadOffset MaskBytes
  rw [ext_eq h2, isMasked_eq h2, byteAt_one, h.ext, hm]
  exact ⟨rfl, rfl⟩

theorem layout_payloadLength {b0 b1 : UInt8} {E K P : List UInt8} {n : Nat} (h : HdrOk b1 E n) :
    PayloadLength (b0 :: b1 :: (E ++ K ++ P)) = .ok (n : Int) := by
  have hd : declLen (b0 :: b1 :: (E ++ K ++ P)) = n := by
    rw [List.append_assoc, declLen_layout b0 b1 E (K ++ P) h.ext.symm]; exact h.decl
  rw [payloadLength_eq (by rw [byteAt_one, h.ext]; simp only [List.length_cons, List.length_append]; omega),
    plOf_eq (max := Go.I64MAX) (Int.le_refl _) (by rw [hd]; have := h.small; unfold Go.I64MAX; omega), hd]

theorem or_two_pow {k n : Nat} (hn : n < 2 ^ k) : UInt8.ofNat (2 ^ k) ||| UInt8.ofNat n = UInt8.ofNat (2 ^ k + n) := by
  rw [← UInt8.ofNat_or, ← Nat.mul_one (2 ^ k), Nat.two_pow_add_eq_or_of_lt hn]

theorem or80_ofNat (n : Nat) (h : n < 128) : ((0x80 : UInt8) ||| UInt8.ofNat n) = UInt8.ofNat (128 + n) :=
  or_two_pow (k := 7) h

theorem or_and_self (a m : UInt8) : ((a ||| m) &&& m) = m := by
  apply UInt8.toNat_inj.mp
  rw [UInt8.toNat_and, UInt8.toNat_or]
  apply Nat.eq_of_testBit_eq
  intro j
  rw [Nat.testBit_and, Nat.testBit_or]
  cases a.toNat.testBit j <;> cases m.toNat.testBit j <;> rfl

theorem or80_idem (a : UInt8) : ((0x80 ||| a) ||| 0x80) = (0x80 ||| a) := by
  rw [UInt8.or_comm 0x80 a, UInt8.or_assoc, UInt8.or_self]

theorem lenBytes_eq (n : Nat) (hn : n < 2 ^ 63) : lenBytes true n = ((0x80 : UInt8) ||| len7 n) :: extBytes n := by
  have hb : b2n true = 1 := rfl
  unfold lenBytes len7 extBytes
  dsimp only
  rw [hb]
  by_cases c1 : n ≤ 125
  · have n1 : ¬ n > 65535 := by omega
    have n2 : ¬ n > 125 := by omega
    rw [if_pos c1, if_neg n1, if_neg n2, if_neg n1, if_neg n2, or80_ofNat n (by omega)]
  · have p2 : n > 125 := by omega
    rw [if_neg c1]
    by_cases c2 : n ≤ 65535
    · have n1 : ¬ n > 65535 := by omega
      rw [if_pos c2, if_neg n1, if_pos p2, if_neg n1, if_pos p2]
      rfl
    · have p1 : n > 65535 := by omega
      rw [if_neg c2, if_pos p1, if_pos p1]
      have : n % 2 ^ 64 = n := Nat.mod_eq_of_lt (Nat.lt_trans hn (by decide))
      rw [this]
      rfl

theorem hdrOk (n : Nat) (hn : n < 2 ^ 63) : HdrOk ((0x80 : UInt8) ||| len7 n) (extBytes n) n := by
  obtain ⟨b1, E, hl, hm, hE, hd⟩ := lenBytes_spec true n (Nat.lt_trans hn (by decide))
  rw [lenBytes_eq n hn] at hl
  cases hl
  exact ⟨hE.symm, of_decide_eq_true hm, hd, hn⟩

theorem offsets2 {b0 b1 : UInt8} {X : List UInt8} :
    maskOffset (b0 :: b1 :: X) = .ok (2 + extLen b1.toNat) ∧
    payloadOffset (b0 :: b1 :: X) = .ok (2 + extLen b1.toNat + maskLen b1.toNat) := by
  have h2 : 2 ≤ (b0 :: b1 :: X).length := by simp only [List.length_cons]; omega
  unfold maskOffset payloadOffset MaskBytes
  rw [ext_eq h2, isMasked_eq h2, byteAt_one]
  refine ⟨rfl, ?_⟩
  simp only [ebind_ok, epure]
  unfold maskLen frameMaskLength frameHeaderLength
  by_cases hm : b1.toNat ≥ 128
  · rw [if_pos (by simpa using hm), if_pos hm]; rfl
  · rw [if_neg (by simpa using hm), if_neg hm]; rfl

theorem bytes_cons2 {b0 b1 : UInt8} {X : List UInt8} {len : Nat} (h : 2 ≤ len) :
    (PFrame.mk (b0 :: b1 :: X) len).bytes = b0 :: b1 :: X.take (len - 2) := by
  unfold PFrame.bytes
  obtain ⟨k, rfl⟩ : ∃ k, len = k + 2 := ⟨len - 2, by omega⟩
  simp only [List.take_succ_cons, Nat.add_sub_cancel]

/-- `SetPayload(b)` after its `setPayloadLength` call. -/
def payloadTail (f : PFrame) (b : List UInt8) : M PFrame := do
  let off ← payloadOffset f.bytes
  let f := f.extend (off + b.length)
  let off ← payloadOffset f.bytes      -- `f.Payload()` = `f[f.payloadOffset():]`
  if off > f.len then throw .sliceBounds else
  f.copyAt off b

theorem setPayload_def (f : PFrame) (b : List UInt8) :
    f.SetPayload b = f.setPayloadLength b.length >>= fun f => payloadTail f b := rfl

theorem payloadTail_eq {b0 b1 : UInt8} {E R b : List UInt8} {L : Nat} (hok : HdrOk b1 E b.length) (hL : 2 ≤ L) :
    ∃ M0 C0 : List UInt8, M0.length = 4 ∧
      payloadTail ⟨b0 :: b1 :: (E ++ R), L⟩ b = .ok ⟨b0 :: b1 :: (E ++ M0 ++ b ++ C0), 2 + E.length + 4 + b.length⟩ := by
  have hml : maskLen b1.toNat = 4 := by unfold maskLen; rw [if_pos hok.masked]
  unfold payloadTail
  rw [bytes_cons2 hL, offsets2.2, hok.ext, hml]
  simp only [ebind_ok]
  -- the extended slice: header, extended length, and at least 4 + n more bytes
  obtain ⟨RZ, hRZ, hlenRZ⟩ : ∃ RZ : List UInt8,
      (PFrame.extend ⟨b0 :: b1 :: (E ++ R), L⟩ (2 + E.length + 4 + b.length)).arr = b0 :: b1 :: (E ++ RZ) ∧
        4 + b.length ≤ RZ.length := by
    unfold PFrame.extend
    dsimp only
    by_cases hgt : 2 + E.length + 4 + b.length > (b0 :: b1 :: (E ++ R)).length
    · rw [if_pos hgt]
      refine ⟨R ++ List.replicate (2 + E.length + 4 + b.length - (b0 :: b1 :: (E ++ R)).length) 0,
        by simp only [List.cons_append, List.append_assoc], ?_⟩
      simp only [List.length_append, List.length_replicate, List.length_cons] at hgt ⊢
      omega
    · rw [if_neg hgt]
      refine ⟨R, rfl, ?_⟩
      simp only [List.length_append, List.length_cons] at hgt
      omega
  have hf3 : PFrame.extend ⟨b0 :: b1 :: (E ++ R), L⟩ (2 + E.length + 4 + b.length) =
      ⟨b0 :: b1 :: (E ++ RZ), 2 + E.length + 4 + b.length⟩ := by
    rw [← hRZ]; rfl
  rw [hf3, bytes_cons2 (by omega), offsets2.2, hok.ext, hml]
  simp only [ebind_ok]
  rw [if_neg (by omega)]
  -- split RZ into the key slot, the payload slot and the rest
  have h4 : (RZ.take 4).length = 4 := by rw [List.length_take]; omega
  have hpl : ((RZ.drop 4).take b.length).length = b.length := by rw [List.length_take, List.length_drop]; omega
  refine ⟨RZ.take 4, (RZ.drop 4).drop b.length, h4, ?_⟩
  have hsplit : b0 :: b1 :: (E ++ RZ) = (b0 :: b1 :: (E ++ RZ.take 4)) ++ (RZ.drop 4).take b.length ++ (RZ.drop 4).drop b.length := by
    simp only [List.cons_append, List.append_assoc, List.take_append_drop]
  have hA : (b0 :: b1 :: (E ++ RZ.take 4)).length = 2 + E.length + 4 := by
    simp only [List.length_cons, List.length_append, h4]; omega
  rw [hsplit, copyAt_mid hA.symm hpl.symm (by rw [hA, hpl]; exact Nat.le_refl _)
    (by rw [← hsplit]; simp only [List.length_cons, List.length_append]; omega)]
  simp only [List.cons_append, List.append_assoc]

theorem setPayload_eq (b0 a1 : UInt8) (rest b : List UInt8) (len : Nat) (h2 : 2 ≤ len) (hlen : len ≤ 2 + rest.length)
    (h12 : 12 ≤ rest.length) (hm : (a1 &&& 0x80) = 0x80) (hn : b.length < 2 ^ 63) :
    ∃ M0 C0 : List UInt8, M0.length = 4 ∧
      PFrame.SetPayload ⟨b0 :: a1 :: rest, len⟩ b =
        .ok ⟨b0 :: ((0x80 : UInt8) ||| len7 b.length) :: (extBytes b.length ++ M0 ++ b ++ C0),
             2 + (extBytes b.length).length + 4 + b.length⟩ := by
  rw [setPayload_def, setPayloadLength_eq _ _ _ _ _ h2 hlen h12, hm, ebind_ok]
  exact payloadTail_eq (hdrOk b.length hn) (by split <;> omega)

/-- `Mask(mask, b)` of util.go, as the model writes it. -/
def maskBytes (key b : List UInt8) : List UInt8 := b.zipIdx.map fun (x, i) => x ^^^ key.getD (i % 4) 0

theorem length_maskBytes (key b : List UInt8) : (maskBytes key b).length = b.length := by
  unfold maskBytes; simp only [List.getD_eq_getElem?_getD, List.length_map, List.length_zipIdx]

/-- `S` is the payload *slice*: for a frame built without `SetPayload`, whatever the pooled slice held. -/
theorem maskPayload_eq {b0 b1 : UInt8} {E M0 S C0 key : List UInt8} {n : Nat} (hok : HdrOk b1 E n) (hb1 : (b1 ||| 0x80) = b1)
    (hM : M0.length = 4) (hk : S.length > 0 → key.length = 4) :
    PFrame.MaskPayload ⟨b0 :: b1 :: (E ++ M0 ++ S ++ C0), 2 + E.length + 4 + S.length⟩ key =
      .ok ⟨b0 :: b1 :: (E ++ (if S.length > 0 then key else M0) ++ (if S.length > 0 then maskBytes key S else S) ++ C0),
           2 + E.length + 4 + S.length⟩ := by
  unfold PFrame.MaskPayload PFrame.SetIsMasked
  rw [modify1 (by omega), hb1]
  simp only [ebind_ok]
  rw [layout_bytes hM]
  rw [(layout_offsets hok).1, (layout_offsets hok).2]
  simp only [ebind_ok]
  have hbl : (b0 :: b1 :: (E ++ M0 ++ S)).length = 2 + E.length + 4 + S.length := by
    simp only [List.length_cons, List.length_append, hM]; omega
  rw [slice_ok (by omega) (by rw [hbl]; unfold frameMaskLength; omega)]
  simp only [ebind_ok]
  rw [slice_ok (by omega) (by rw [hbl]; exact Nat.le_refl _)]
  simp only [ebind_ok]
  have hpay : ((b0 :: b1 :: (E ++ M0 ++ S)).drop (2 + E.length + 4)).take (2 + E.length + 4 + S.length - (2 + E.length + 4)) = S := by
    have e : b0 :: b1 :: (E ++ M0 ++ S) = (b0 :: b1 :: (E ++ M0)) ++ S := by simp only [List.append_assoc, List.cons_append]
    rw [e, List.drop_left' (by simp only [List.length_cons, List.length_append, hM]; omega)]
    rw [show 2 + E.length + 4 + S.length - (2 + E.length + 4) = S.length by omega, List.take_length]
  rw [hpay]
  by_cases hpos : S.length > 0
  · rw [if_pos hpos, if_pos hpos, if_pos hpos]
    have hk' := hk hpos
    have hk4 : key.take 4 = key := by rw [← hk', List.take_length]
    rw [hk4]
    have s1 : b0 :: b1 :: (E ++ M0 ++ S ++ C0) = (b0 :: b1 :: E) ++ M0 ++ (S ++ C0) := by simp only [List.append_assoc, List.cons_append]
    rw [s1, copyAt_mid (by simp only [List.length_cons]; omega) (by rw [hk', hM])
      (by simp only [List.length_cons, hM]; omega)
      (by simp only [List.length_cons, List.length_append, hM]; omega)]
    simp only [ebind_ok]
    have s2 : (b0 :: b1 :: E) ++ key ++ (S ++ C0) = ((b0 :: b1 :: E) ++ key) ++ S ++ C0 := by simp only [List.cons_append, List.append_assoc]
    rw [s2, copyAt_mid (by simp only [List.length_cons, List.length_append, hk']; omega)
      (by simp only [List.getD_eq_getElem?_getD, List.length_map, List.length_zipIdx])
      (by simp only [List.length_cons, List.length_append, hk']; omega)
      (by simp only [List.length_cons, List.length_append, hk']; omega)]
    unfold maskBytes
    simp only [List.cons_append, List.getD_eq_getElem?_getD, List.append_assoc]
  · rw [if_neg hpos, if_neg hpos, if_neg hpos]
    rfl

theorem wire_eq (b0 b1 : UInt8) (E K S C0 : List UInt8) (n : Nat) (hok : HdrOk b1 E n) (hM : K.length = 4) (hn : n ≤ S.length) :
    PFrame.wire ⟨b0 :: b1 :: (E ++ K ++ S ++ C0), 2 + E.length + 4 + S.length⟩ = .ok (b0 :: b1 :: (E ++ K ++ S.take n)) := by
  unfold PFrame.wire
  rw [layout_bytes hM, (layout_offsets hok).2, layout_payloadLength hok]
  simp only [ebind_ok]
  rw [if_pos ⟨by omega, by simp only [List.length_cons, List.length_append, hM]; omega⟩]
  have e : b0 :: b1 :: (E ++ K ++ S ++ C0) = (b0 :: b1 :: (E ++ K ++ S.take n)) ++ (S.drop n ++ C0) := by
    simp only [List.cons_append, List.append_assoc]
    rw [← List.append_assoc (List.take n S), List.take_append_drop]
  rw [e]
  have : (((2 + E.length + 4 : Nat) : Int) + (n : Int)).toNat = (b0 :: b1 :: (E ++ K ++ S.take n)).length := by
    simp only [List.length_cons, List.length_append, hM, List.length_take]; omega
  rw [this, List.take_left' rfl]
  rfl

/-- `buildFrame` once header and payload are set: `prepareWrite`'s `MaskPayload`, then `Encode`'s bytes. -/
def buildTail (f : PFrame) (key : List UInt8) : M (List UInt8 × Bool) := do
  let poff ← payloadOffset (← f.SetIsMasked).bytes
  let needKey := decide (f.len > poff)
  if needKey ∧ key.length ≠ 4 then throw .env
  let f ← f.MaskPayload key
  pure (← f.wire, needKey)

theorem buildFrame_eq (pooled : PFrame) (fin : Bool) (c : UInt8) (p : Option (List UInt8)) (key : List UInt8) :
    Sonic.Model.WsWritePath.buildFrame pooled fin c p key = (do
      let f ← pooled.SetIsMasked
      let f ← if fin then f.SetFIN else pure f
      let f ← f.SetOpcode c
      let f ← match p with
        | some b => f.SetPayload b
        | none => pure f
      buildTail f key) := rfl

theorem buildTail_eq {b0 b1 : UInt8} {E M0 S C0 key : List UInt8} {n : Nat} (hok : HdrOk b1 E n) (hb1 : (b1 ||| 0x80) = b1)
    (hM : M0.length = 4) (hk : key.length = 4) (hn : n ≤ S.length) :
    buildTail ⟨b0 :: b1 :: (E ++ M0 ++ S ++ C0), 2 + E.length + 4 + S.length⟩ key =
      .ok (b0 :: b1 :: (E ++ (if S.length > 0 then key else M0) ++ (if S.length > 0 then maskBytes key S else S).take n),
           decide (S.length > 0)) := by
  have hM' : (if S.length > 0 then key else M0).length = 4 := by split <;> assumption
  have hS' : (if S.length > 0 then maskBytes key S else S).length = S.length := by
    split
    · exact length_maskBytes key S
    · rfl
  have hw := wire_eq b0 b1 E _ _ C0 n hok hM' (by rw [hS']; exact hn)
  rw [hS'] at hw
  have hd : decide (2 + E.length + 4 + S.length > 2 + E.length + 4) = decide (S.length > 0) :=
    decide_eq_decide.mpr (by omega)
  unfold buildTail PFrame.SetIsMasked
  rw [modify1 (by omega), hb1]
  simp only [ebind_ok]
  rw [layout_bytes hM, (layout_offsets hok).2]
  simp only [ebind_ok]
  rw [if_neg (fun h => h.2 hk), maskPayload_eq hok hb1 hM (fun _ => hk)]
  simp only [ebind_ok, hw, hd, epure]

theorem getElem_maskBytes (key b : List UInt8) (i : Nat) (h : i < (maskBytes key b).length) :
    (maskBytes key b)[i] = b[i]'(by rw [length_maskBytes] at h; exact h) ^^^ key.getD (i % 4) 0 := by
  simp only [maskBytes, List.getElem_map, List.getElem_zipIdx]
  simp only [Nat.zero_add, List.getD_eq_getElem?_getD]

theorem maskBytes_involution (key b : List UInt8) : maskBytes key (maskBytes key b) = b := by
  apply List.ext_getElem
  · rw [length_maskBytes, length_maskBytes]
  · intro i h1 h2
    rw [getElem_maskBytes, getElem_maskBytes, UInt8.xor_assoc, UInt8.xor_self, UInt8.xor_zero]

theorem xorKey_eq_maskBytes (key b : List UInt8) : Sonic.Spec.WsWire.xorKey key b = maskBytes key b := rfl

theorem and0f_ofNat (c : UInt8) : c &&& 0x0f = UInt8.ofNat (c.toNat % 16) :=
  UInt8.toNat_inj.mp (by rw [and0f, UInt8.toNat_ofNat']; exact (Nat.mod_eq_of_lt (by omega)).symm)

/-- `% 16 % 16`: the frame's opcode is `c.toNat % 16`, and `encode` reduces the opcode modulo 16 itself. -/
theorem hb0_eq (fin : Bool) (c : UInt8) :
    hb0 fin c = UInt8.ofNat (128 * b2n fin + 64 * b2n false + 32 * b2n false + 16 * b2n false + c.toNat % 16 % 16) := by
  unfold hb0
  rw [and0f_ofNat, Nat.mod_mod]
  cases fin
  · rw [show 128 * b2n false + 64 * b2n false + 32 * b2n false + 16 * b2n false = 0 from rfl, Nat.zero_add]
    exact UInt8.zero_or
  · exact or80_ofNat _ (by omega)

theorem encode_masked (fin : Bool) (c : UInt8) (K P : List UInt8) (hn : P.length < 2 ^ 63) :
    encode { fin := fin, rsv1 := false, rsv2 := false, rsv3 := false, opcode := c.toNat % 16, masked := true, mask := K, payload := P } =
      hb0 fin c :: ((0x80 : UInt8) ||| len7 P.length) :: (extBytes P.length ++ K ++ P) := by
  unfold encode
  dsimp only
  rw [← hb0_eq, lenBytes_eq _ hn]
  simp only [↓reduceIte, List.cons_append, List.append_assoc]

end Sonic.Model.WsEncode
