/-
C12, membership layer: the per-socket multicast source filters of the kernel model (`Model.Datagram.kMemb`,
`kAllow`: Linux `ip_mc_source` with its mode switch and error numbers, `ip_mc_sf_allow`) refine the abstract
RFC 3376 style filters of the monitor (`Spec.Datagram.mstep`, `passes`), for every membership call.
-/
import Sonic.Model.Datagram

namespace Sonic.Lemmas.Datagram
open Sonic.Spec.Datagram Sonic.Model.Datagram

theorem upd_same {α : Type} (f : Nat → α) (i : Nat) (v : α) : upd f i v i = v := by simp [upd]
theorem upd_other {α : Type} (f : Nat → α) {i j : Nat} (v : α) (h : j ≠ i) : upd f i v j = f j := by simp [upd, h]

theorem upd_self {α : Type} (f : Nat → α) (i : Nat) : upd f i (f i) = f := by
  funext j; by_cases h : j = i <;> simp [upd, h]

theorem upd_upd {α : Type} (f : Nat → α) (i : Nat) (v w : α) : upd (upd f i v) i w = upd f i w := by
  funext j; by_cases h : j = i <;> simp [upd, h]

def absF (f : KFilt) : Filter := if f.incl && f.hasList then .include f.srcs else .exclude f.srcs

/-- The state a failing `IP_DROP_SOURCE_MEMBERSHIP` leaves an any-source membership in: include mode, no list. -/
def quirk (f : KFilt) : Bool := f.incl && !f.hasList

/-- Coupling between the kernel's filter entry of each group and the monitor's abstract filter.  `nolist`: an entry
that has no source list yet carries no sources, so that its abstract filter, `exclude srcs`, lets every source through,
as the kernel does for it.  `unsure`: in the state `quirk` the kernel lets nothing through while the abstract filter
still lets everything; the monitor has marked such a group unsure and demands nothing of it. -/
structure MembR (k : KMembs) (a : Memb) : Prop where
  filt : ∀ g, a.filt g = (k g).map absF
  unsure : ∀ g f, k g = some f → quirk f = true → a.unsure g = true
  nolist : ∀ g f, k g = some f → f.hasList = false → f.srcs = []

theorem MembR.init : MembR (fun _ => none) Memb.empty :=
  ⟨fun _ => rfl, fun _ _ h => by simp at h, fun _ _ h => by simp at h⟩

theorem MembR.fail {k : KMembs} {a : Memb} (h : MembR k a) (op : MOp) : MembR k (mstep a op false) := by
  refine ⟨fun g => ?_, fun g f hk hq => ?_, h.nolist⟩
  · simp [mstep, h.filt g]
  · simp only [mstep, Bool.false_eq_true, if_false]
    by_cases hg : g = op.group
    · subst hg; simp [upd]
    · simp [upd, hg, h.unsure g f hk hq]

theorem MembR.set {k : KMembs} {a : Memb} (h : MembR k a) (g : Ip) (e : Option KFilt) (fa : Option Filter) (u : Bool)
    (hf : fa = e.map absF) (hu : ∀ f, e = some f → quirk f = true → u = true)
    (hn : ∀ f, e = some f → f.hasList = false → f.srcs = []) :
    MembR (upd k g e) { filt := upd a.filt g fa, unsure := upd a.unsure g u } := by
  refine ⟨fun g' => ?_, fun g' f hk hq => ?_, fun g' f hk hl => ?_⟩
  · by_cases hg : g' = g
    · subst hg; simp [upd, hf]
    · simp [upd, hg, h.filt g']
  · by_cases hg : g' = g
    · subst hg; simp only [upd, if_true] at hk ⊢; exact hu f hk hq
    · simp only [upd, hg, if_false] at hk ⊢; exact h.unsure g' f hk hq
  · by_cases hg : g' = g
    · subst hg; simp only [upd, if_true] at hk; exact hn f hk hl
    · simp only [upd, hg, if_false] at hk; exact h.nolist g' f hk hl

theorem MembR.failSet {k : KMembs} {a : Memb} (h : MembR k a) (op : MOp) (g : Ip) (hg : op.group = g) (e : Option KFilt)
    (hf : a.filt g = e.map absF) (hn : ∀ f, e = some f → f.hasList = false → f.srcs = []) :
    MembR (upd k g e) (mstep a op false) := by
  subst hg
  have := h.set op.group e (a.filt op.group) true hf (fun _ _ _ => rfl) hn
  rw [upd_self] at this
  simpa [mstep] using this

theorem MembR.okSet {k : KMembs} {a : Memb} (h : MembR k a) (op : MOp) (g : Ip) (hg : op.group = g) (e : Option KFilt)
    (fa : Option Filter) (hap : applyOp a.filt op = upd a.filt g fa) (hf : fa = e.map absF)
    (hu : ∀ f, e = some f → quirk f = false) (hn : ∀ f, e = some f → f.hasList = false → f.srcs = []) :
    MembR (upd k g e) (mstep a op true) := by
  subst hg
  have := h.set op.group e fa false hf (fun f hf hq => by simp [hu f hf] at hq) hn
  simpa [mstep, hap] using this

theorem filt_of {k : KMembs} {a : Memb} (h : MembR k a) {g : Ip} {f : KFilt} (hk : k g = some f) :
    a.filt g = some (absF f) := by rw [h.filt g, hk]; rfl

theorem beq_nil_nil : (Errc.nil == Errc.nil) = true := by decide
theorem beq_ana_nil : (Errc.addrnotavail == Errc.nil) = false := by decide

def mode (incl : Bool) (l : List Ip) : Filter := if incl then .include l else .exclude l

theorem absF_noList (incl : Bool) (l : List Ip) : absF ⟨incl, l, false⟩ = .exclude l := by simp [absF]
theorem absF_list (incl : Bool) (l : List Ip) : absF ⟨incl, l, true⟩ = mode incl l := by simp [absF, mode]
theorem quirk_list (incl : Bool) (l : List Ip) : quirk ⟨incl, l, true⟩ = false := by simp [quirk]

/-- `op` is to be the abstract counterpart of the `ip_mc_source` call: an any-source membership has no list yet and
takes the mode of the call (`hany`); a membership ends with the last source of an include list (`hdel`). -/
theorem mcSource_refines {k : KMembs} {a : Memb} (h : MembR k a) (op : MOp) (add omode : Bool) (g s : Ip) (hg : op.group = g)
    (hadd : add = true → ∀ l, a.filt g = some (mode omode l) →
      applyOp a.filt op = upd a.filt g (some (mode omode (s :: l))))
    (hany : add = true → a.filt g = some (.exclude []) → applyOp a.filt op = upd a.filt g (some (mode omode [s])))
    (hdel : add = false → ∀ l, a.filt g = some (mode omode l) → l.contains s = true →
      applyOp a.filt op = upd a.filt g (if l.length == 1 && omode then none else some (mode omode (l.erase s)))) :
    MembR (mcSource k add omode g s).1 (mstep a op ((mcSource k add omode g s).2 == .nil)) := by
  unfold mcSource
  cases hk : k g with
  | none => exact h.fail _
  | some f =>
    have hfg := filt_of h hk
    have hnl := h.nolist g f hk
    obtain ⟨incl, srcs, hasList⟩ := f
    have hok : ∀ l fa, applyOp a.filt op = upd a.filt g fa → fa = some (mode omode l) →
        MembR (upd k g (some ⟨omode, l, true⟩)) (mstep a op true) := fun l fa hap hfa =>
      h.okSet op g hg _ fa hap (by rw [hfa, Option.map, absF_list]) (fun f hf => by cases hf; exact quirk_list _ _)
        (fun f hf hl => by cases hf; cases hl)
    dsimp only
    cases hasList with
    | false =>
      -- no list yet: the mode switches freely, and there is nothing to remove
      cases hnl rfl
      rw [absF_noList] at hfg
      cases add with
      | false =>
        simp only [Bool.false_and, Bool.false_eq_true, if_false, Bool.not_false, Bool.true_or, if_true, beq_ana_nil]
        exact h.failSet op g hg _ (by rw [hfg, Option.map, absF_noList]) (fun _ hf _ => by cases hf; rfl)
      | true =>
        simp only [Bool.false_and, Bool.false_eq_true, if_false, Bool.not_true, List.contains_nil, beq_nil_nil]
        exact hok _ _ (hany rfl hfg) rfl
    | true =>
      rw [absF_list] at hfg
      by_cases hm : incl = omode
      · subst hm
        have hsame : MembR (upd k g (some ⟨incl, srcs, true⟩)) (mstep a op false) :=
          h.failSet op g hg _ (by rw [hfg, Option.map, absF_list]) (fun _ hf hl => by cases hf; cases hl)
        simp only [Bool.true_and, bne_self_eq_false, Bool.false_eq_true, if_false, Bool.not_true, Bool.false_or]
        by_cases hc : srcs.contains s = true
        · cases add with
          | false =>
            simp only [Bool.not_false, if_true, hc, Bool.not_true, Bool.false_eq_true, if_false]
            have hap := hdel rfl srcs hfg hc
            by_cases hl : (srcs.length == 1 && incl) = true
            · rw [if_pos hl] at hap ⊢
              exact h.okSet op g hg none none hap rfl nofun nofun
            · rw [if_neg hl] at hap ⊢
              exact hok _ _ hap rfl
          | true =>
            simp only [Bool.not_true, Bool.false_eq_true, if_false, hc, if_true, beq_ana_nil]
            exact hsame
        · cases add with
          | false =>
            simp only [Bool.not_false, if_true, hc, Bool.not_false, beq_ana_nil]
            exact hsame
          | true =>
            simp only [Bool.not_true, Bool.false_eq_true, if_false, hc, beq_nil_nil]
            exact hok _ _ (hadd rfl srcs hfg) rfl
      · -- a list in the other mode: EINVAL
        rw [if_pos (by simpa using hm)]
        exact h.fail _

theorem erase_eq_nil_iff {l : List Ip} {s : Ip} (hm : l.contains s = true) : l.erase s = [] ↔ l.length = 1 := by
  have hm' : s ∈ l := by simpa using hm
  have h1 := List.length_erase_of_mem hm'
  have h2 : 0 < l.length := List.length_pos_of_mem hm'
  rw [← List.length_eq_zero_iff, h1]
  omega

/-- Every well-formed membership call: the kernel's new filter state is the abstract one after `mstep`, fed with
whether the call succeeded. -/
theorem kMemb_refines {k : KMembs} {a : Memb} (h : MembR k a) (op : MOp) :
    MembR (kMemb k op).1 (mstep a op ((kMemb k op).2 == .nil)) := by
  cases op with
  | join g =>
    simp only [kMemb, joinGroup]
    cases hk : k g with
    | some f => exact h.fail _
    | none => exact h.set g (some ⟨false, [], false⟩) (some (.exclude [])) false (by simp [absF]) (by simp [quirk]) (by simp)
  | leave g =>
    simp only [kMemb, leaveGroup]
    cases hk : k g with
    | none => exact h.fail _
    | some f => exact h.set g none none false rfl nofun nofun
  | block g s =>
    exact mcSource_refines h (.block g s) true false g s rfl (fun _ l hl => by simp [applyOp, hl, mode])
      (fun _ hl => by simp [applyOp, hl, mode]) nofun
  | unblock g s =>
    exact mcSource_refines h (.unblock g s) false false g s rfl nofun nofun (fun _ l hl _ => by simp [applyOp, hl, mode])
  | leaveSrc g s =>
    exact mcSource_refines h (.leaveSrc g s) false true g s rfl nofun nofun
      (fun _ l hl hc => by simp [applyOp, hl, mode, erase_eq_nil_iff hc])
  | joinSrc g s =>
    simp only [kMemb, joinGroup]
    cases hk : k g with
    | none =>
      -- a fresh include-mode membership, then its first source
      have hfg : a.filt g = none := by rw [h.filt g, hk]; rfl
      simp only [mcSource, upd_same, Bool.false_and, Bool.false_eq_true, if_false, Bool.not_true, List.contains_nil, upd_upd, beq_nil_nil]
      exact h.okSet (.joinSrc g s) g rfl _ (some (.include [s])) (by simp [applyOp, hfg]) (by simp [absF])
        (fun f hf => by cases hf; exact quirk_list _ _) (fun f hf hl => by cases hf; cases hl)
    | some f =>
      exact mcSource_refines h (.joinSrc g s) true true g s rfl (fun _ l hl => by simp [applyOp, hl, mode])
        (fun _ hl => by simp [applyOp, hl, mode]) nofun

/-- Safety: whatever the kernel's filter lets through, the abstract filter lets through (group joined and not
left, source not blocked / source joined). -/
theorem kAllow_sound {k : KMembs} {a : Memb} (h : MembR k a) (g src : Ip) (hk : kAllow k g src = true) :
    passes a g src = true := by
  unfold kAllow at hk
  unfold passes
  cases hg : k g with
  | none => simp [hg] at hk
  | some f =>
    rw [filt_of h hg]
    rw [hg] at hk
    have hn := h.nolist g f hg
    rcases f with ⟨incl, srcs, hasList⟩
    -- with a list both sides test membership in it; without one the kernel lets everything through (or, in include
    -- mode, nothing), and the abstract filter is `exclude []` by `nolist`
    cases incl <;> cases hasList <;> simp_all [absF]

/-- Completeness, when the last membership call for the group did not fail. -/
theorem kAllow_complete {k : KMembs} {a : Memb} (h : MembR k a) (g src : Ip) (hs : a.unsure g = false) :
    kAllow k g src = passes a g src := by
  unfold kAllow passes
  cases hg : k g with
  | none => simp [h.filt g, hg]
  | some f =>
    rw [filt_of h hg]
    have hq := h.unsure g f hg
    have hn := h.nolist g f hg
    rcases f with ⟨incl, srcs, hasList⟩
    -- as in `kAllow_sound`; include mode without a list, where the kernel lets nothing through and `exclude []`
    -- everything, is the state `quirk`, which `unsure` rules out
    cases incl <;> cases hasList <;> simp_all [absF, quirk]

end Sonic.Lemmas.Datagram
