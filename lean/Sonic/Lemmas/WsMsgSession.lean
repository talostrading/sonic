/-
C06, whole sessions.  Induction over the message list (message API) and over the frame list
(frame API) of a session, from any stream that is reading and has the session's byte stream ahead of it.
-/
import Sonic.Lemmas.WsMsgDeliver

namespace Sonic.Lemmas.WsMsg
open Sonic.Model.WsBuf Sonic.Model.WsFrame Sonic.Spec.WsFrame Sonic.Model.WsMsg Sonic.Spec.WsMessages
open Sonic.Model.WsStream (Next Asm)
open Sonic.Spec.WsStream (Err InFrame)

theorem encode_length_ge (f : Frame) : 2 ≤ (encode f).length := by
  unfold encode lenBytes
  simp only [List.length_cons, List.length_append]
  split
  · simp only [List.length_cons, List.length_nil]; omega
  · split <;> simp <;> omega

theorem flatMap_encode_length : ∀ (fs : List Frame), 2 * fs.length ≤ (fs.flatMap encode).length
  | [] => by simp
  | f :: r => by
    have := encode_length_ge f
    have := flatMap_encode_length r
    simp only [List.flatMap_cons, List.length_append, List.length_cons]; omega

theorem rem_length_le (w : W) : (rem w).length ≤ w.c.buf.data.length + (w.chunks.map List.length).sum := by
  unfold rem Codec.unconsumed
  rw [List.length_append, List.length_drop, List.length_flatten]
  omega

theorem frames_le_msgFuel (w : W) (fs : List Frame) (t : List UInt8) (h : rem w = fs.flatMap encode ++ t) :
    fs.length + 2 ≤ msgFuel w := by
  have h1 := rem_length_le w
  have h2 := flatMap_encode_length fs
  rw [h, List.length_append] at h1
  unfold msgFuel; omega

/-- What the message API reports for a delivered message. -/
def asmOf (m : Sent) : Asm :=
  { ty := m.ty, n := m.payload.length, data := m.payload, cont := false, ctl := ctlSeen m.ctls }

/-- What it reports when only control frames were left. -/
def asmEnd (tail : List Ctl) : Asm := { ctl := ctlSeen tail }

theorem sentOk_ctl_parts {max buf : Nat} {m : Sent} (h : SentOk max buf m) : ∀ p ∈ m.parts, ∀ c ∈ p.1, CtlOk max c :=
  fun p hp c hc => h.2.2.2.2 c (List.mem_flatMap.mpr ⟨p, hp, hc⟩)

theorem nextMessage_msg (async : Bool) (buf : Nat) (w : W) (m : Sent) (t : List UInt8) (hS : SInv w)
    (hm : SentOk w.m.max buf m) (hrem : rem w = m.frames.flatMap encode ++ t) :
    nextMessage async buf w = .error (.buf .env) ∨
    ∃ w', nextMessage async buf w = .ok (w', .nil, asmOf m) ∧ SInv w' ∧ w'.m.max = w.m.max ∧ rem w' = t := by
  have hcp := sentOk_ctl_parts hm
  obtain ⟨hty, hne, hmax, hbuf, _⟩ := hm
  have hfu := frames_le_msgFuel w m.frames t hrem
  unfold nextMessage
  rcases nm_parts async buf m.ty hty m.parts true (msgFuel w) w {} t hne hS hcp
      rfl rfl (show 0 + m.payload.length ≤ _ by rw [Nat.zero_add]; exact hmax)
      (show 0 + m.payload.length ≤ _ by rw [Nat.zero_add]; exact hbuf) hrem
      (Nat.le_trans (Nat.le_add_right _ 2) hfu) with he | ⟨w', h', S', mx', r'⟩
  · left; exact he
  · right
    refine ⟨w', ?_, S', mx', r'⟩
    rw [h']
    simp [asmOf, partsPayload, partsCtls, Sent.payload, Sent.ctls]

theorem nextMessage_end (async : Bool) (buf : Nat) (w : W) (tail : List Ctl) (hS : SInv w)
    (hctl : ∀ c ∈ tail, CtlOk w.m.max c) (hrem : rem w = (tail.map ctlFrame).flatMap encode) :
    nextMessage async buf w = .error (.buf .env) ∨
    ∃ w', nextMessage async buf w = .ok (w', .nodata, asmEnd tail) ∧ SInv w' ∧ w'.m.max = w.m.max ∧ rem w' = [] := by
  have hfu := frames_le_msgFuel w (tail.map ctlFrame) [] (by rw [hrem, List.append_nil])
  rw [List.length_map] at hfu
  obtain ⟨fuel, hf, _⟩ := fuel_split (c := tail.length) (l := 1) hfu
  unfold nextMessage
  rw [hf]
  rcases nm_ctls async buf tail (fuel + 1) w {} [] hS hctl (by rw [hrem, List.append_nil]) with he | ⟨w1, S1, mx1, r1, e1⟩
  · left; exact he
  rw [e1]
  rcases nextFrame_end async w1 S1 r1 with he | ⟨w2, h2, S2, mx2, r2⟩
  · left; exact nm_fail he
  · right
    refine ⟨w2, ?_, S2, by rw [mx2, mx1], r2⟩
    rw [nm_stop h2 (by intro h; cases h)]
    simp [asmEnd]

theorem wire_cons (m : Sent) (ms : List Sent) (tail : List Ctl) :
    wire { msgs := m :: ms, tail := tail } = m.frames.flatMap encode ++ wire { msgs := ms, tail := tail } := by
  unfold wire Session.frames
  simp only [List.flatMap_cons, List.flatMap_append, List.append_assoc]

theorem wire_nil (tail : List Ctl) : wire { msgs := [], tail := tail } = (tail.map ctlFrame).flatMap encode := by
  unfold wire Session.frames; simp

/-- What the message API reports over the whole session. -/
def delivered (s : Session) : List (Err × Asm) :=
  s.msgs.map (fun m => (Err.nil, asmOf m)) ++ [(Err.nodata, asmEnd s.tail)]

theorem runMsgs_session (async : Bool) (buf : Nat) : ∀ (msgs : List Sent) (tail : List Ctl) (k : Nat) (w : W), SInv w →
    InScope w.m.max buf { msgs := msgs, tail := tail } → rem w = wire { msgs := msgs, tail := tail } →
    msgs.length + 1 ≤ k →
    runMsgs async buf k w = .error (.buf .env) ∨
    ∃ w', runMsgs async buf k w = .ok (delivered { msgs := msgs, tail := tail }, w') := by
  intro msgs
  induction msgs with
  | nil =>
    intro tail k w hS hsc hrem hk
    obtain ⟨k', rfl⟩ := Nat.exists_eq_add_one_of_ne_zero (Nat.ne_zero_of_lt hk)
    rw [wire_nil] at hrem
    unfold runMsgs
    rcases nextMessage_end async buf w tail hS hsc.2 hrem with he | ⟨w', h', _, _, _⟩
    · left; rw [he]; rfl
    · right
      rw [h']
      simp only [ebind_ok, ne_eq]
      rw [if_pos (by intro h; cases h)]
      exact ⟨w', rfl⟩
  | cons m ms ih =>
    intro tail k w hS hsc hrem hk
    obtain ⟨k', rfl⟩ := Nat.exists_eq_add_one_of_ne_zero (Nat.ne_zero_of_lt hk)
    rw [wire_cons] at hrem
    have hm : SentOk w.m.max buf m := hsc.1 m (List.mem_cons_self ..)
    unfold runMsgs
    rcases nextMessage_msg async buf w m _ hS hm hrem with he | ⟨w1, h1, S1, mx1, r1⟩
    · left; rw [he]; rfl
    · rw [h1]
      simp only [ebind_ok, ne_eq, not_true_eq_false, if_false]
      rcases ih tail k' w1 S1 (by rw [mx1]; exact ⟨fun x hx => hsc.1 x (List.mem_cons_of_mem _ hx), hsc.2⟩) r1
        (Nat.le_of_succ_le_succ hk) with he | ⟨w', h'⟩
      · left; rw [he]; rfl
      · right
        rw [h']
        exact ⟨w', by simp [delivered]⟩

theorem runFrames_frames (async : Bool) : ∀ (fs : List Frame) (k : Nat) (w : W), SInv w →
    (∀ f ∈ fs, FrOk w.m.max f) → rem w = fs.flatMap encode → fs.length + 1 ≤ k →
    runFrames async k w = .error (.buf .env) ∨
    ∃ w', runFrames async k w =
      .ok (fs.map (fun f => (Err.nil, some (inFrameOf f))) ++ [(Err.nodata, none)], w') := by
  intro fs
  induction fs with
  | nil =>
    intro k w hS _ hrem hk
    obtain ⟨k', rfl⟩ := Nat.exists_eq_add_one_of_ne_zero (Nat.ne_zero_of_lt hk)
    unfold runFrames
    rcases nextFrame_end async w hS (by simpa using hrem) with he | ⟨w', h', _, _, _⟩
    · left; rw [he]; rfl
    · right
      rw [h']
      simp only [ebind_ok, ne_eq]
      rw [if_pos (by intro h; cases h)]
      exact ⟨w', rfl⟩
  | cons f fs ih =>
    intro k w hS hok hrem hk
    obtain ⟨k', rfl⟩ := Nat.exists_eq_add_one_of_ne_zero (Nat.ne_zero_of_lt hk)
    unfold runFrames
    rcases nextFrame_head async w f _ hS (hok f (List.mem_cons_self ..)) (by rw [hrem, List.flatMap_cons]) with he | ⟨w1, h1, S1, mx1, r1⟩
    · left; rw [he]; rfl
    · rw [h1]
      simp only [ebind_ok, ne_eq, not_true_eq_false, if_false]
      rcases ih k' w1 S1 (fun g hg => by rw [mx1]; exact hok g (List.mem_cons_of_mem _ hg)) r1 (Nat.le_of_succ_le_succ hk) with he | ⟨w', h'⟩
      · left; rw [he]; rfl
      · right
        rw [h']
        exact ⟨w', by simp⟩

theorem partFrames_ok (max ty : Nat) (hty : ty = 1 ∨ ty = 2) : ∀ (parts : List (List Ctl × Bytes)) (first : Bool),
    (partsPayload parts).length ≤ max → (∀ p ∈ parts, ∀ c ∈ p.1, CtlOk max c) →
    ∀ f ∈ partFrames ty first parts, FrOk max f := by
  intro parts
  induction parts with
  | nil => intro _ _ _ f hf; simp [partFrames] at hf
  | cons p rest ih =>
    intro first hlen hctl f hf
    obtain ⟨cs, b⟩ := p
    rw [partsPayload_cons, List.length_append] at hlen
    simp only [partFrames, List.mem_append, List.mem_map, List.mem_cons] at hf
    rcases hf with ⟨c, hc, rfl⟩ | rfl | hf
    · exact ctlFrame_ok (hctl (cs, b) (List.mem_cons_self ..) c hc)
    · exact ⟨rfl, rfl, rfl, rfl, rfl, Nat.le_trans (Nat.le_add_right ..) hlen, .inl (partOp_data hty first)⟩
    · exact ih false (Nat.le_trans (Nat.le_add_left ..) hlen) (fun q hq c hc => hctl q (List.mem_cons_of_mem _ hq) c hc) f hf

theorem session_frames_ok {max buf : Nat} {s : Session} (h : InScope max buf s) : ∀ f ∈ s.frames, FrOk max f := by
  intro f hf
  unfold Session.frames at hf
  rcases List.mem_append.mp hf with hf | hf
  · obtain ⟨m, hm, hfm⟩ := List.mem_flatMap.mp hf
    exact partFrames_ok max m.ty (h.1 m hm).1 m.parts true (h.1 m hm).2.2.1 (sentOk_ctl_parts (h.1 m hm)) f hfm
  · obtain ⟨c, hc, rfl⟩ := List.mem_map.mp hf
    exact ctlFrame_ok (h.2 c hc)

/-- Every message has at least one frame. -/
theorem msgs_le_frames {max buf : Nat} {s : Session} (h : InScope max buf s) : s.msgs.length ≤ s.frames.length := by
  have key : ∀ (l : List Sent), (∀ m ∈ l, SentOk max buf m) → l.length ≤ (l.map fun m => m.frames.length).sum := by
    intro l
    induction l with
    | nil => intro _; simp
    | cons m r ih =>
      intro hh
      have hm := hh m (List.mem_cons_self ..)
      have hr := ih (fun x hx => hh x (List.mem_cons_of_mem _ hx))
      have : 1 ≤ m.frames.length := by
        obtain ⟨_, hne, _⟩ := hm
        unfold Sent.frames
        cases hp : m.parts with
        | nil => exact absurd hp hne
        | cons p q => rw [partFrames_length_cons]; omega
      simp only [List.map_cons, List.sum_cons, List.length_cons]; omega
  have := key s.msgs h.1
  unfold Session.frames
  rw [List.length_append, List.length_flatMap]
  omega

theorem assemble_cons (f : InFrame) (r : List InFrame) (cur : Option (Nat × Bytes)) :
    assemble (f :: r) cur =
      if Sonic.Spec.WsStream.controlOp f.op then assemble r cur
      else if f.fin then
        ((match cur with | some c => c.1 | none => f.op), (match cur with | some c => c.2 | none => []) ++ f.payload) :: assemble r none
      else assemble r (some ((match cur with | some c => c.1 | none => f.op), (match cur with | some c => c.2 | none => []) ++ f.payload)) := rfl

theorem assemble_ctls (max : Nat) : ∀ (cs : List Ctl) (rest : List InFrame) (cur : Option (Nat × Bytes)),
    (∀ c ∈ cs, CtlOk max c) → assemble ((cs.map ctlFrame).map inFrameOf ++ rest) cur = assemble rest cur := by
  intro cs
  induction cs with
  | nil => intro rest cur _; rfl
  | cons c cs ih =>
    intro rest cur h
    have hc := h c (List.mem_cons_self ..)
    have hop : Sonic.Spec.WsStream.controlOp (inFrameOf (ctlFrame c)).op = true := by
      show Sonic.Spec.WsStream.controlOp c.op = true
      rcases hc.1 with h | h <;> rw [h] <;> rfl
    simp only [List.map_cons, List.cons_append, assemble, hop, if_true]
    exact ih rest cur (fun x hx => h x (List.mem_cons_of_mem _ hx))

theorem assemble_parts (max ty : Nat) (hty : ty = 1 ∨ ty = 2) : ∀ (parts : List (List Ctl × Bytes)) (first : Bool)
    (acc : Bytes) (rest : List InFrame), parts ≠ [] → (∀ p ∈ parts, ∀ c ∈ p.1, CtlOk max c) →
    assemble ((partFrames ty first parts).map inFrameOf ++ rest) (if first then none else some (ty, acc)) =
      (ty, (if first then [] else acc) ++ partsPayload parts) :: assemble rest none := by
  intro parts
  induction parts with
  | nil => intro _ _ _ h; exact absurd rfl h
  | cons p q ih =>
    intro first acc rest _ hctl
    obtain ⟨cs, b⟩ := p
    have hnc := (Sonic.Lemmas.WsRefine.notControl_of _ (partOp_data hty first)).2
    have hty1 : (match (if first then none else some (ty, acc)) with | some c => c.1 | none => (if first then ty else 0)) = ty := by
      cases first <;> rfl
    have hdat : (match (if first then none else some (ty, acc)) with | some c => c.2 | none => []) = (if first then [] else acc) := by
      cases first <;> rfl
    rw [partFrames, List.map_append, List.map_cons, List.append_assoc, List.cons_append,
      assemble_ctls max cs _ _ (hctl (cs, b) (List.mem_cons_self ..)), assemble_cons]
    dsimp only [inFrameOf, dataFrame]
    simp only [hnc, Bool.false_eq_true, if_false, hty1, hdat, partsPayload_cons]
    cases q with
    | nil =>
      rw [List.isEmpty_nil, if_pos rfl]
      simp only [partFrames, List.map_nil, List.nil_append, partsPayload, List.flatMap_nil, List.append_nil]
    | cons r q' =>
      rw [List.isEmpty_cons, if_neg Bool.false_ne_true]
      refine (ih false ((if first then [] else acc) ++ b) rest (List.cons_ne_nil _ _)
        fun x hx => hctl x (List.mem_cons_of_mem _ hx)).trans ?_
      show (ty, (if first then [] else acc) ++ b ++ partsPayload (r :: q')) :: _ = _
      rw [List.append_assoc]

/-- Reassembling what the frame API delivers (RFC 6455 5.4) gives what the message API delivers: the same messages,
same types, same payloads, in the same order. -/
theorem assemble_session {max buf : Nat} : ∀ (msgs : List Sent) (tail : List Ctl), InScope max buf { msgs := msgs, tail := tail } →
    assemble (({ msgs := msgs, tail := tail } : Session).frames.map inFrameOf) none = msgs.map fun m => (m.ty, m.payload) := by
  intro msgs
  induction msgs with
  | nil =>
    intro tail h
    have := assemble_ctls max tail [] none h.2
    simpa [Session.frames, assemble] using this
  | cons m ms ih =>
    intro tail h
    have hm := h.1 m (List.mem_cons_self ..)
    have hrest := ih tail ⟨fun x hx => h.1 x (List.mem_cons_of_mem _ hx), h.2⟩
    have := assemble_parts max m.ty hm.1 m.parts true [] ((({ msgs := ms, tail := tail } : Session).frames).map inFrameOf)
      hm.2.1 (sentOk_ctl_parts hm)
    simp only [if_true, List.nil_append] at this
    have hfr : ({ msgs := m :: ms, tail := tail } : Session).frames = m.frames ++ ({ msgs := ms, tail := tail } : Session).frames := by
      simp [Session.frames]
    rw [hfr, List.map_append]
    unfold Sent.frames
    rw [this, hrest]
    simp [Sent.payload, partsPayload]

end Sonic.Lemmas.WsMsg
