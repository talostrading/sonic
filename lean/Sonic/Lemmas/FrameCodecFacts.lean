/-
Facts about the frame codec model (`Sonic.Model.FrameCodec`) against the pure parser
(`Sonic.Spec.FrameCodec.front`): the parser and the length prefix, the `ByteBuffer` operations the codec
uses, and what one `Decode` call does to a source buffer, in terms of the unparsed bytes only.
-/
import Sonic.Model.FrameCodec

namespace Sonic.Lemmas.FrameCodec
open Sonic.Spec.FrameCodec Sonic.Model.FrameCodec

theorem front_short {limit : Nat} {u : Bytes} (h : u.length < 4) : front limit u = .incomplete := by
  match u, h with
  | [], _ | [_], _ | [_, _], _ | [_, _, _], _ => rfl
  | _ :: _ :: _ :: _ :: r, h => exact absurd h (by simp only [List.length_cons]; omega)

theorem shape4 {u : Bytes} (h : ¬ u.length < 4) : ∃ a0 a1 a2 a3 r, u = a0 :: a1 :: a2 :: a3 :: r := by
  match u, h with
  | [], h | [_], h | [_, _], h | [_, _, _], h => simp at h
  | a0 :: a1 :: a2 :: a3 :: r, _ => exact ⟨a0, a1, a2, a3, r, rfl⟩

theorem front_cons4 (limit : Nat) (a b c d : UInt8) (r : Bytes) :
    front limit (a :: b :: c :: d :: r) =
      if len32 a b c d > limit then .tooBig
      else if len32 a b c d ≤ r.length then .item (r.take (len32 a b c d)) (r.drop (len32 a b c d))
      else .incomplete := rfl

theorem front_decided {limit : Nat} {u : Bytes} (h : front limit u ≠ .incomplete) :
    ∃ a b c d r, u = a :: b :: c :: d :: r :=
  shape4 fun hs => h (front_short hs)

theorem front_item_append {limit : Nat} {u p rest : Bytes} (v : Bytes) (h : front limit u = .item p rest) :
    front limit (u ++ v) = .item p (rest ++ v) := by
  obtain ⟨a, b, c, d, r, rfl⟩ := front_decided (by rw [h]; exact Front.noConfusion)
  rw [front_cons4] at h
  rw [List.cons_append, List.cons_append, List.cons_append, List.cons_append, front_cons4]
  by_cases h1 : len32 a b c d > limit
  · rw [if_pos h1] at h; cases h
  · by_cases h2 : len32 a b c d ≤ r.length
    · rw [if_neg h1, if_pos h2] at h
      injection h with hp hr
      rw [if_neg h1, if_pos (by rw [List.length_append]; omega), ← hp, ← hr,
        List.take_append_of_le_length h2, List.drop_append_of_le_length h2]
    · rw [if_neg h1, if_neg h2] at h; cases h

theorem front_tooBig_iff {limit : Nat} {a b c d : UInt8} {r : Bytes} :
    front limit (a :: b :: c :: d :: r) = .tooBig ↔ len32 a b c d > limit := by
  rw [front_cons4]
  refine ⟨fun h => ?_, fun h => if_pos h⟩
  by_cases h1 : len32 a b c d > limit
  · exact h1
  · rw [if_neg h1] at h
    split at h <;> cases h

theorem front_tooBig_append {limit : Nat} {u : Bytes} (v : Bytes) (h : front limit u = .tooBig) :
    front limit (u ++ v) = .tooBig := by
  obtain ⟨a, b, c, d, r, rfl⟩ := front_decided (by rw [h]; exact Front.noConfusion)
  exact front_tooBig_iff.mpr (front_tooBig_iff.mp h)

theorem front_tooBig_of_append {limit : Nat} {u v : Bytes} (hu : ¬ u.length < 4) (h : front limit (u ++ v) = .tooBig) :
    front limit u = .tooBig := by
  obtain ⟨a, b, c, d, r, rfl⟩ := shape4 hu
  exact front_tooBig_iff.mpr (front_tooBig_iff.mp h)

theorem base256 {n q1 q2 q3 r0 r1 r2 : Nat} (h0 : 256 * q1 + r0 = n) (h1 : 256 * q2 + r1 = q1)
    (h2 : 256 * q3 + r2 = q2) : q3 * 16777216 + r2 * 65536 + r1 * 256 + r0 = n := by
  omega

/-- `4294967296` = 2^32: the lengths the four bytes of the prefix can hold. -/
theorem len32_be32 {n : Nat} (h : n < 4294967296) :
    len32 (UInt8.ofNat (n / 16777216 % 256)) (UInt8.ofNat (n / 65536 % 256))
      (UInt8.ofNat (n / 256 % 256)) (UInt8.ofNat (n % 256)) = n := by
  have h1 := Nat.div_add_mod (n / 256) 256
  have h2 := Nat.div_add_mod (n / 65536) 256
  rw [Nat.div_div_eq_div_mul] at h1 h2
  have h3 : n / 16777216 % 256 = n / 16777216 := Nat.mod_eq_of_lt (Nat.div_lt_of_lt_mul h)
  simp only [len32, UInt8.toNat_ofNat', Nat.reducePow, Nat.mod_mod, h3]
  exact base256 (Nat.div_add_mod n 256) h1 h2

theorem frame_length (p : Bytes) : (frame p).length = 4 + p.length := by
  simp only [frame, be32, List.length_append, List.length_cons, List.length_nil]

theorem frame_front {limit : Nat} (p rest : Bytes) (h1 : p.length ≤ limit) (h2 : p.length < 4294967296) :
    front limit (frame p ++ rest) = .item p rest := by
  simp only [frame, be32, List.cons_append, List.nil_append, front_cons4, len32_be32 h2]
  rw [if_neg (Nat.not_lt.mpr h1), if_pos (by rw [List.length_append]; omega),
    List.take_left, List.drop_left]

theorem reserve_data (b : BB) (n slack : Nat) : (b.reserve n slack).data = b.data := by
  unfold BB.reserve; split <;> rfl

theorem reserve_ri (b : BB) (n slack : Nat) : (b.reserve n slack).ri = b.ri := by
  unfold BB.reserve; split <;> rfl

theorem reserve_cap_ge (b : BB) (n slack : Nat) : b.cap ≤ (b.reserve n slack).cap := by
  unfold BB.reserve; split
  · show b.cap ≤ b.cap + _ + slack; omega
  · exact Nat.le_refl _

theorem reserve_room (b : BB) (n slack : Nat) (h : b.data.length ≤ b.cap) :
    b.data.length + n ≤ (b.reserve n slack).cap := by
  unfold BB.reserve; split
  · show _ ≤ b.cap + (n - (b.cap - b.data.length)) + slack; omega
  · show _ ≤ b.cap; omega

theorem consume_cap (b : BB) (n : Nat) : (b.consume n).cap = b.cap := by
  unfold BB.consume
  split
  · rfl
  · split <;> rfl

theorem consume_le (b : BB) {n : Nat} (h : n ≤ b.ri) :
    b.consume n = { b with data := b.data.drop n, ri := b.ri - n } := by
  unfold BB.consume BB.readLen
  by_cases h0 : n = 0
  · subst h0; rfl
  · rw [if_neg h0, Nat.min_eq_left h, if_pos (Nat.pos_of_ne_zero h0)]

theorem consume_committed (b : BB) (n : Nat) (hri : b.ri = b.data.length) (hn : n ≤ b.data.length) :
    (b.consume n).data = b.data.drop n ∧ (b.consume n).ri = b.data.length - n := by
  rw [consume_le b (hri ▸ hn)]
  exact ⟨rfl, by rw [← hri]⟩

theorem commit_all (b : BB) (h : b.ri ≤ b.data.length) : b.commit b.writeLen = { b with ri := b.data.length } := by
  unfold BB.commit BB.writeLen
  split
  · have e : b.data.length = b.ri := by omega
    rw [e]
  · have e : b.ri + (b.data.length - b.ri) = b.data.length := by omega
    rw [Nat.min_self, e]

theorem view_committed (b : BB) (h : b.ri = b.data.length) : b.view = b.data := by
  rw [BB.view, h, List.take_length]

/-- The bytes of the source buffer that have not been returned as an item yet. -/
def clean (d : Dec) (b : BB) : Bytes := if d.decodeReset then b.data.drop d.decodeBytes else b.data

structure SrcInv (d : Dec) (b : BB) : Prop where
  ri_le : b.ri ≤ b.data.length
  le_cap : b.data.length ≤ b.cap
  cap4 : 4 ≤ b.cap
  reset_ri : d.decodeReset = true → b.ri = d.decodeBytes
  clean_ri : d.decodeReset = false → b.ri = 0 ∨ b.ri = 4

theorem srcInv_new : SrcInv {} BB.new := by
  constructor <;> simp [BB.new, initialCap]

theorem resetDecode_spec {d : Dec} {b : BB} (h : SrcInv d b) :
    (resetDecode d b).1.decodeReset = false ∧ (resetDecode d b).2.data = clean d b ∧
    ((resetDecode d b).2.ri = 0 ∨ (resetDecode d b).2.ri = 4) ∧ (resetDecode d b).2.cap = b.cap ∧
    (resetDecode d b).2.ri ≤ (resetDecode d b).2.data.length := by
  unfold resetDecode clean
  by_cases hr : d.decodeReset = true
  · have hri := h.reset_ri hr
    have h0 : b.ri - d.decodeBytes = 0 := by rw [hri, Nat.sub_self]
    rw [if_pos hr, if_pos hr, consume_le b (Nat.le_of_eq hri.symm)]
    exact ⟨rfl, rfl, Or.inl h0, rfl, Nat.le_trans (Nat.le_of_eq h0) (Nat.zero_le _)⟩
  · have hr' : d.decodeReset = false := eq_false_of_ne_true hr
    rw [if_neg hr, if_neg hr]
    exact ⟨hr', rfl, h.clean_ri hr', rfl, h.ri_le⟩

theorem decodeBody_short (limit slack : Nat) (d : Dec) (b : BB) (hri : b.ri = 0 ∨ b.ri = 4)
    (hle : b.ri ≤ b.data.length) (hs : b.data.length < 4) :
    decodeBody limit slack d b = (d, b, .needMore) := by
  have h0 : b.ri = 0 := by omega
  have hp : b.prepareRead headerLen = (b, true) := by
    simp [BB.prepareRead, BB.readLen, BB.writeLen, headerLen, h0]; omega
  unfold decodeBody
  rw [hp]; rfl

theorem prepareRead_payload (a0 a1 a2 a3 : UInt8) (r : Bytes) (cap n : Nat) :
    ({ data := a0 :: a1 :: a2 :: a3 :: r, ri := 4, cap := cap } : BB).prepareRead (headerLen + n) =
      if n ≤ r.length then ({ data := a0 :: a1 :: a2 :: a3 :: r, ri := 4 + n, cap := cap }, false)
      else ({ data := a0 :: a1 :: a2 :: a3 :: r, ri := 4, cap := cap }, true) := by
  simp only [BB.prepareRead, BB.readLen, BB.writeLen, BB.commit, headerLen, List.length_cons]
  by_cases h0 : n = 0
  · subst h0; simp
  · have e1 : 4 + n > 4 := Nat.lt_add_of_pos_right (Nat.pos_of_ne_zero h0)
    have e2 : 4 + n - 4 = n := Nat.add_sub_cancel_left 4 n
    have e3 : r.length + 1 + 1 + 1 + 1 - 4 = r.length := Nat.add_sub_cancel r.length 4
    simp only [e1, e2, e3, if_true, h0, if_false]
    by_cases h : n ≤ r.length
    · have e4 : min n r.length = n := Nat.min_eq_left h
      simp [h, e4]
    · simp [h]

theorem consume_header (a0 a1 a2 a3 : UInt8) (r : Bytes) (cap n : Nat) :
    ({ data := a0 :: a1 :: a2 :: a3 :: r, ri := 4 + n, cap := cap } : BB).consume headerLen =
      { data := r, ri := n, cap := cap } := by
  have e1 : min 4 (4 + n) = 4 := Nat.min_eq_left (Nat.le_add_right ..)
  simp [BB.consume, BB.readLen, headerLen, e1]

theorem decodeBody_long (limit slack : Nat) (d : Dec) (b : BB) (a0 a1 a2 a3 : UInt8) (r : Bytes)
    (hdata : b.data = a0 :: a1 :: a2 :: a3 :: r) (hri : b.ri = 0 ∨ b.ri = 4) :
    decodeBody limit slack d b =
      if len32 a0 a1 a2 a3 > limit then (d, { b with ri := 4 }, .tooBig)
      else if len32 a0 a1 a2 a3 ≤ r.length then
        ({ decodeReset := true, decodeBytes := len32 a0 a1 a2 a3 },
         { data := r, ri := len32 a0 a1 a2 a3, cap := b.cap }, .item (r.take (len32 a0 a1 a2 a3)))
      else (d, ({ b with ri := 4 } : BB).reserve (4 + len32 a0 a1 a2 a3) slack, .needMore) := by
  have hp : b.prepareRead headerLen = ({ b with ri := 4 }, false) := by
    rcases hri with h | h
    · simp [BB.prepareRead, BB.readLen, BB.writeLen, BB.commit, headerLen, h, hdata]
    · cases b; simp_all [BB.prepareRead, BB.readLen, headerLen]
  unfold decodeBody
  rw [hp]
  simp only [BB.view, hdata, List.take, Bool.false_eq_true, if_false]
  by_cases h1 : len32 a0 a1 a2 a3 > limit
  · rw [if_pos h1, if_pos h1]
  · rw [if_neg h1, if_neg h1, prepareRead_payload]
    by_cases h2 : len32 a0 a1 a2 a3 ≤ r.length
    · rw [if_pos h2, if_pos h2]
      simp only [Bool.false_eq_true, if_false, consume_header]
      rw [if_pos (by show _ ≤ (r.take _).length; rw [List.length_take_of_le h2]; exact Nat.le_refl _)]
      simp only [List.take_take, Nat.min_self]
    · rw [if_neg h2, if_neg h2]
      rfl

/-- What one `Decode` call does, in terms of the unparsed bytes `clean d b` of the buffer only.  The invariant is
kept, and according to what the pure parser finds at their front:
* a complete item: it is returned, what follows it is what stays unparsed, the capacity has not moved;
* a prefix over the limit: `tooBig`, nothing is consumed, the capacity has not moved;
* an incomplete frame: `needMore`, the buffer holds exactly the unparsed bytes and has room for at least one more,
  and the capacity can only have grown if the four prefix bytes were there to say by how much. -/
theorem decode_spec (limit slack : Nat) {d : Dec} {b : BB} (h : SrcInv d b) {d' : Dec} {b' : BB} {res : DecRes}
    (ho : decode limit slack d b = (d', b', res)) :
    SrcInv d' b' ∧
    (∀ p rest, front limit (clean d b) = .item p rest → res = .item p ∧ clean d' b' = rest ∧ b'.cap = b.cap) ∧
    (front limit (clean d b) = .tooBig → res = .tooBig ∧ clean d' b' = clean d b ∧ b'.cap = b.cap) ∧
    (front limit (clean d b) = .incomplete →
      res = .needMore ∧ b'.data = clean d b ∧ d'.decodeReset = false ∧ b'.data.length < b'.cap ∧
      ((clean d b).length < 4 → b'.cap = b.cap)) := by
  obtain ⟨r1, r2, r3, r4, r5⟩ := resetDecode_spec h
  have hcapL : (clean d b).length ≤ b.cap := by
    unfold clean
    by_cases hr : d.decodeReset = true
    · rw [if_pos hr, List.length_drop]; exact Nat.le_trans (Nat.sub_le ..) h.le_cap
    · rw [if_neg hr]; exact h.le_cap
  have h4 := h.cap4
  unfold decode at ho
  generalize (resetDecode d b).1 = d0 at *
  generalize (resetDecode d b).2 = b0 at *
  generalize hu : clean d b = u at *
  have hnr : ∀ {x : Nat}, d0.decodeReset = true → x = d0.decodeBytes := fun hh => by rw [r1] at hh; cases hh
  by_cases hs : u.length < 4
  · rw [decodeBody_short limit slack d0 b0 r3 r5 (by rw [r2]; exact hs)] at ho
    cases ho
    rw [front_short hs]
    exact ⟨⟨r5, by rw [r2, r4]; exact hcapL, by rw [r4]; exact h4, hnr, fun _ => r3⟩, nofun, nofun,
      fun _ => ⟨rfl, r2, r1, by rw [r2, r4]; exact Nat.lt_of_lt_of_le hs h4, fun _ => r4⟩⟩
  · obtain ⟨a0, a1, a2, a3, r, rfl⟩ := shape4 hs
    rw [decodeBody_long limit slack d0 b0 a0 a1 a2 a3 r r2 r3] at ho
    rw [front_cons4]
    simp only [List.length_cons] at hcapL
    have hlen : b0.data.length = r.length + 4 := by rw [r2]; rfl
    have hcap0 : b0.data.length ≤ b0.cap := by rw [hlen, r4]; exact hcapL
    have h40 : 4 ≤ b0.cap := by rw [r4]; exact h4
    by_cases h1 : len32 a0 a1 a2 a3 > limit
    · -- over the limit: the header is committed, nothing else moves
      rw [if_pos h1] at ho
      cases ho
      rw [if_pos h1]
      refine ⟨⟨hlen ▸ Nat.le_add_left 4 r.length, hcap0, h40, hnr, fun _ => Or.inr rfl⟩, nofun, fun _ => ⟨rfl, ?_, r4⟩, nofun⟩
      · show (if d'.decodeReset = true then _ else b0.data) = _
        rw [if_neg (by rw [r1]; nofun), r2]
    · rw [if_neg h1] at ho
      rw [if_neg h1]
      by_cases h2 : len32 a0 a1 a2 a3 ≤ r.length
      · -- a complete item: header and payload are committed, the header is consumed
        rw [if_pos h2] at ho
        cases ho
        rw [if_pos h2]
        refine ⟨⟨h2, Nat.le_trans (hlen ▸ Nat.le_add_right r.length 4) hcap0, h40, fun _ => rfl, nofun⟩, fun p rest hh => ?_, nofun, nofun⟩
        injection hh with hp hr
        exact ⟨by rw [hp], (if_pos rfl).trans hr, r4⟩
      · -- the payload is not all there: room is reserved for it
        rw [if_neg h2] at ho
        rw [if_neg h2]
        generalize hbb : ({ b0 with ri := 4 } : BB).reserve (4 + len32 a0 a1 a2 a3) slack = bb at ho
        cases ho
        have hroom : b0.data.length + (4 + len32 a0 a1 a2 a3) ≤ b'.cap := hbb ▸ reserve_room ({ b0 with ri := 4 } : BB) _ slack hcap0
        have hge : b0.cap ≤ b'.cap := hbb ▸ reserve_cap_ge ({ b0 with ri := 4 } : BB) _ slack
        have e_data : b'.data = b0.data := hbb ▸ reserve_data ({ b0 with ri := 4 } : BB) _ slack
        have e_ri : b'.ri = 4 := hbb ▸ reserve_ri ({ b0 with ri := 4 } : BB) _ slack
        have hlt : b'.data.length < b'.cap := by
          rw [e_data]
          exact Nat.lt_of_lt_of_le (Nat.lt_add_of_pos_right (Nat.add_pos_left (by decide) _)) hroom
        exact ⟨⟨by rw [e_ri, e_data, hlen]; exact Nat.le_add_left .., Nat.le_of_lt hlt, Nat.le_trans h40 hge, hnr,
            fun _ => Or.inr e_ri⟩,
          nofun, nofun, fun _ => ⟨rfl, e_data.trans r2, r1, hlt, fun hh => absurd hh hs⟩⟩

end Sonic.Lemmas.FrameCodec
