/-
Facts about the hand-written slot model (`Sonic.Model.Slots`) used by the C20 refinement proof:
the save-area methods of the buffer, the sorted container, the offsetter and the sequencer against
a ghost description of the index (`GE`: sequence number, original index, bytes; oldest first).
-/
import Sonic.Lemmas.Fenwick

namespace Sonic.Lemmas.SlotsFacts
open Sonic.Gen.Slot Sonic.Spec.Slots Sonic.Model.Slots Sonic.Lemmas.Fenwick

theorem sublist_mid {α : Type} (l r : List α) (x : α) : (l ++ r).Sublist (l ++ x :: r) :=
  (List.Sublist.refl l).append (List.sublist_cons_self x r)

theorem length_mid {α : Type} (l r : List α) (x : α) : (l ++ x :: r).length = (l ++ r).length + 1 := by
  rw [List.length_append, List.length_append, List.length_cons, Nat.add_assoc]

theorem length_cut {α : Type} (A B C : List α) : (A ++ B ++ C).length = (A ++ C).length + B.length := by
  rw [List.length_append, List.length_append, List.length_append, Nat.add_right_comm]

theorem getElem?_mid {α : Type} (l r : List α) (x : α) : (l ++ x :: r)[l.length]? = some x := by
  rw [List.getElem?_append_right (Nat.le_refl _), Nat.sub_self]; rfl

theorem getD_mid {α : Type} (l r : List α) (x d : α) : (l ++ x :: r).getD l.length d = x := by
  rw [List.getD_eq_getElem?_getD, getElem?_mid]; rfl

theorem length_lt_mid {α : Type} (l r : List α) (x : α) : ¬ l.length ≥ (l ++ x :: r).length := by
  rw [List.length_append, List.length_cons]; exact Nat.not_le.mpr (Nat.lt_add_of_pos_right (Nat.succ_pos _))

theorem not_mem_mid {α : Type} {R : α → α → Prop} (hR : ∀ x, ¬ R x x) {l r : List α} {e : α}
    (h : (l ++ e :: r).Pairwise R) : e ∉ l ++ r := by
  obtain ⟨_, p2, p3⟩ := List.pairwise_append.mp h
  intro hx
  rcases List.mem_append.mp hx with hx | hx
  · exact hR e (p3 e hx e (List.mem_cons_self ..))
  · exact hR e ((List.pairwise_cons.mp p2).1 e hx)

theorem mem_mid_iff {α : Type} {l r l' r' : List α} {e : α} (h : ∀ x, x ∈ l ++ e :: r ↔ x ∈ l' ++ e :: r')
    (h1 : e ∉ l ++ r) (h2 : e ∉ l' ++ r') (x : α) : x ∈ l ++ r ↔ x ∈ l' ++ r' := by
  by_cases hx : x = e
  · subst hx; exact ⟨fun hm => absurd hm h1, fun hm => absurd hm h2⟩
  · have := h x
    simp only [List.mem_append, List.mem_cons, hx, false_or] at this ⊢
    exact this

theorem flat_append (p q : List (Int × Bytes)) : flat (p ++ q) = flat p ++ flat q := by
  induction p with
  | nil => rfl
  | cons x r ih => simp [flat, ih]

theorem flat_snoc (p : List (Int × Bytes)) (x : Int × Bytes) : flat (p ++ [x]) = flat p ++ x.2 := by
  rw [flat_append]; exact congrArg _ (List.append_nil _)

theorem slice_mid (A B C : Bytes) : slice (A ++ B ++ C) A.length B.length = some B := by
  unfold slice
  rw [if_pos ⟨Int.natCast_nonneg _, Int.natCast_nonneg _, by
    rw [← Int.natCast_add, ← List.length_append, List.length_append (as := A ++ B)]
    exact Int.ofNat_le.mpr (Nat.le_add_right ..)⟩]
  simp only [Int.toNat_natCast, List.append_assoc, List.drop_left, List.take_left]

/-- `saveLen` is `Save`'s clamping of its argument to the readable bytes, cut off at zero. -/
theorem saveLen_cast (n : Int) (avail : Nat) :
    ((saveLen n avail : Nat) : Int) = max 0 (if n > (avail : Int) then (avail : Int) else n) := by
  unfold saveLen
  by_cases h0 : n ≤ 0
  · rw [if_pos h0, if_neg (by omega)]; omega
  · by_cases h1 : n > avail
    · rw [if_neg h0, if_pos h1, if_pos h1]; omega
    · rw [if_neg h0, if_neg h1, if_neg h1]; omega

theorem saveLen_le (n : Int) (avail : Nat) : saveLen n avail ≤ avail := by
  have := saveLen_cast n avail
  omega

/-! ## byte_buffer.go -/

/-- The buffer holds save area `sv`, then read area `rd`, and an empty write area. -/
def BufOk (b : Buf) (sv rd : Bytes) : Prop :=
  b.data = sv ++ rd ∧ b.si = sv.length ∧ b.ri = b.data.length

theorem saved_of_bufOk {b : Buf} {sv rd : Bytes} (h : BufOk b sv rd) : b.saved = sv := by
  obtain ⟨hd, hs, _⟩ := h
  unfold Buf.saved
  rw [hd, hs, Int.toNat_natCast, List.take_left]

theorem write_commit_spec {b : Buf} {sv rd : Bytes} (bytes : Bytes) (h : BufOk b sv rd) :
    BufOk ((b.write bytes).commit bytes.length) sv (rd ++ bytes) := by
  obtain ⟨hd, hs, hr⟩ := h
  unfold Buf.write Buf.commit Buf.wi
  dsimp only
  by_cases hb : (bytes.length : Int) ≤ 0
  · obtain rfl : bytes = [] := List.eq_nil_of_length_eq_zero (Nat.le_zero.mp (Int.ofNat_le.mp hb))
    rw [if_pos hb, List.append_nil, List.append_nil]
    exact ⟨hd, hs, hr⟩
  · -- the write area is exactly what was written
    have hw : ((b.data ++ bytes).length : Int) - b.ri = bytes.length := by
      rw [hr, List.length_append, Int.natCast_add, Int.add_comm, Int.add_sub_cancel]
    rw [if_neg hb, hw, if_neg (Int.lt_irrefl _)]
    refine ⟨by rw [hd, List.append_assoc], hs, ?_⟩
    rw [hr, List.length_append, Int.natCast_add]

theorem save_spec {b : Buf} {sv rd : Bytes} (n : Int) (h : BufOk b sv rd) :
    BufOk (b.save n).1 (sv ++ rd.take (saveLen n rd.length)) (rd.drop (saveLen n rd.length)) ∧
    (b.save n).2 = (if saveLen n rd.length = 0 then ⟨0, 0⟩ else ⟨sv.length, saveLen n rd.length⟩) := by
  obtain ⟨hd, hs, hr⟩ := h
  have hrl : b.ri - b.si = rd.length := by
    rw [hr, hs, hd, List.length_append, Int.natCast_add, Int.add_comm, Int.add_sub_cancel]
  have hk := saveLen_le n rd.length
  have hc := saveLen_cast n rd.length
  unfold Buf.save
  simp only [hrl]
  generalize (if n > (rd.length : Int) then (rd.length : Int) else n) = n' at hc ⊢
  obtain ⟨hz, hp⟩ : (n' ≤ 0 → saveLen n rd.length = 0) ∧ (¬ n' ≤ 0 → n' = (saveLen n rd.length : Nat)) := by omega
  by_cases h0 : n' ≤ 0
  · rw [if_pos h0, hz h0, if_pos rfl, List.take_zero, List.append_nil, List.drop_zero]
    exact ⟨⟨hd, hs, hr⟩, rfl⟩
  · have hpos : ¬ saveLen n rd.length = 0 := fun he => h0 (by rw [hp h0, he]; exact Int.le_refl _)
    rw [if_neg h0, if_neg hpos, hp h0]
    refine ⟨⟨?_, ?_, hr⟩, by rw [hs]⟩
    · rw [hd, List.append_assoc, List.take_append_drop]
    · rw [hs, List.length_append, List.length_take, Nat.min_eq_left hk]
      exact (Int.natCast_add _ _).symm

/-- `Write(bytes); Commit(len bytes); Save(n)`. -/
theorem feed_spec {b : Buf} {sv rd : Bytes} (bytes : Bytes) (n : Int) (h : BufOk b sv rd) :
    BufOk (feed b bytes n).1 (sv ++ (rd ++ bytes).take (saveLen n (rd ++ bytes).length))
      ((rd ++ bytes).drop (saveLen n (rd ++ bytes).length)) ∧
    (feed b bytes n).2 = (if saveLen n (rd ++ bytes).length = 0 then ⟨0, 0⟩
      else ⟨sv.length, saveLen n (rd ++ bytes).length⟩) :=
  save_spec n (write_commit_spec bytes h)

theorem discard_zero (b : Buf) (slot : Slot) (h : slot.Length = 0) : b.discard slot = some (b, 0) := by
  unfold Buf.discard; rw [if_pos (Int.le_of_eq h)]

theorem slice_zero {xs : Bytes} {idx : Int} (h0 : 0 ≤ idx) (h1 : idx ≤ xs.length) : slice xs idx 0 = some [] := by
  unfold slice
  rw [if_pos ⟨h0, Int.le_refl 0, by rw [Int.add_zero]; exact h1⟩]
  simp

/-- `SavedSlot` / `Discard`; for an empty `B` any index inside the save area will do. -/
theorem discard_at {b : Buf} {A B C rd : Bytes} {idx : Int} (h : BufOk b (A ++ B ++ C) rd)
    (hi : B ≠ [] → idx = A.length) (h0 : 0 ≤ idx) (h1 : idx ≤ (A ++ B ++ C).length) :
    slice (A ++ B ++ C) idx B.length = some B ∧ b.savedSlot ⟨idx, B.length⟩ = some B ∧
    ∃ b' r, b.discard ⟨idx, B.length⟩ = some (b', r) ∧ BufOk b' (A ++ C) rd := by
  by_cases hB : B = []
  · subst hB
    refine ⟨slice_zero h0 h1, ?_, b, 0, discard_zero b _ rfl, by simpa using h⟩
    exact slice_zero h0 (Int.le_trans h1 (Int.ofNat_le.mpr (by rw [h.1, List.length_append (bs := rd)]; exact Nat.le_add_right ..)))
  · rw [hi hB]
    obtain ⟨hd, hs, hr⟩ := h
    have hlen : (0 : Int) < B.length := Int.natCast_pos.mpr (List.length_pos_iff.mpr hB)
    rw [List.append_assoc (A ++ B)] at hd
    refine ⟨slice_mid A B C, ?_, ?_⟩
    · unfold Buf.savedSlot
      rw [hd]; exact slice_mid A B (C ++ rd)
    · unfold Buf.discard Buf.wi
      rw [if_neg (Int.not_le.mpr hlen), ← Int.natCast_add, ← List.length_append,
        if_pos ⟨Int.natCast_nonneg _, by rw [hd, List.length_append (as := A ++ B)]; exact Int.ofNat_le.mpr (Nat.le_add_right ..)⟩,
        Int.toNat_natCast, Int.toNat_natCast]
      refine ⟨_, _, rfl, ?_, ?_, ?_⟩
      · rw [hd, List.drop_left, List.append_assoc A B, List.take_left, List.append_assoc]
      · rw [hs, length_cut, Int.natCast_add, Int.add_sub_cancel]
      · rw [hr, hd, List.drop_left, List.append_assoc A B, List.take_left, ← List.append_assoc A B, length_cut,
          Int.natCast_add, Int.add_sub_cancel]

theorem discardAll_spec {b : Buf} {sv rd : Bytes} (h : BufOk b sv rd) :
    ∃ b', b.discardAll = some b' ∧ BufOk b' [] rd := by
  obtain ⟨_, _, b', _, hd, hb⟩ := discard_at (A := []) (B := sv) (C := []) (idx := 0) (by simpa using h) (fun _ => rfl) (Int.le_refl 0)
    (Int.natCast_nonneg _)
  refine ⟨b', ?_, hb⟩
  unfold Buf.discardAll Buf.saveLen
  rw [h.2.1, hd]; rfl

/-! ## sequenced_slots.go -/

def SortedSeq (l : List SSlot) : Prop := l.Pairwise (fun x y => x.seq < y.seq)

theorem search_sorted (slots : List SSlot) (seq : Int) (hs : SortedSeq slots) :
    ∃ l r, slots = l ++ r ∧ l.length = search slots seq ∧ (∀ e ∈ l, e.seq < seq) ∧
      ((∃ e r', r = e :: r' ∧ e.seq = seq) ∨ (∀ e ∈ r, seq < e.seq)) := by
  induction slots with
  | nil => exact ⟨[], [], rfl, rfl, fun _ he => absurd he List.not_mem_nil, Or.inr fun _ he => absurd he List.not_mem_nil⟩
  | cons x xs ih =>
    obtain ⟨hx, hxs⟩ := List.pairwise_cons.mp hs
    unfold search at ih ⊢
    rw [List.findIdx_cons]
    by_cases hge : x.seq ≥ seq
    · refine ⟨[], x :: xs, rfl, by simp [hge], fun _ he => absurd he List.not_mem_nil, ?_⟩
      by_cases hq : x.seq = seq
      · exact Or.inl ⟨x, xs, rfl, hq⟩
      · right
        intro e he
        rcases List.mem_cons.mp he with rfl | he
        · exact Int.lt_iff_le_and_ne.mpr ⟨hge, Ne.symm hq⟩
        · exact Int.lt_of_le_of_lt hge (hx e he)
    · obtain ⟨l, r, h1, h2, h3, h4⟩ := ih hxs
      refine ⟨x :: l, r, by rw [h1]; rfl, by simp [hge, h2], ?_, h4⟩
      intro e he
      rcases List.mem_cons.mp he with rfl | he
      · exact Int.not_le.mp hge
      · exact h3 e he

theorem absent_of_split {l r : List SSlot} {seq : Int} (h1 : ∀ e ∈ l, e.seq < seq) (h2 : ∀ e ∈ r, seq < e.seq) :
    ¬ ∃ e ∈ l ++ r, e.seq = seq := by
  rintro ⟨e, he, hq⟩
  rcases List.mem_append.mp he with he | he
  · exact Int.lt_irrefl _ (hq ▸ h1 e he)
  · exact Int.lt_irrefl _ (hq ▸ h2 e he)

theorem containerPop_spec (slots : List SSlot) (seq : Int) (hs : SortedSeq slots) :
    ((¬ ∃ e ∈ slots, e.seq = seq) ∧ containerPop slots seq = (slots, ⟨0, 0⟩, false)) ∨
    (∃ l e r, slots = l ++ e :: r ∧ e.seq = seq ∧ containerPop slots seq = (l ++ r, e.slot, true)) := by
  obtain ⟨l, r, rfl, h2, h3, h4⟩ := search_sorted slots seq hs
  unfold containerPop
  simp only [← h2]
  rcases h4 with ⟨e, r', rfl, hq⟩ | h4
  · right
    refine ⟨l, e, r', rfl, hq, ?_⟩
    rw [getElem?_mid]
    dsimp only
    rw [if_pos hq, List.take_left, List.drop_length_add_append]
    rfl
  · left
    refine ⟨absent_of_split h3 h4, ?_⟩
    cases r with
    | nil => simp
    | cons e r' =>
      rw [getElem?_mid]
      dsimp only
      rw [if_neg (Int.ne_of_gt (h4 e (List.mem_cons_self ..)))]

theorem containerPush_spec (maxSlots : Int) (slots : List SSlot) (seq : Int) (slot : Slot) (hs : SortedSeq slots) :
    ((∃ e ∈ slots, e.seq = seq) ∧ containerPush maxSlots slots seq slot = (slots, false, false)) ∨
    ((¬ ∃ e ∈ slots, e.seq = seq) ∧ (slots.length : Int) ≥ maxSlots ∧
      containerPush maxSlots slots seq slot = (slots, false, true)) ∨
    ((¬ ∃ e ∈ slots, e.seq = seq) ∧ ¬ (slots.length : Int) ≥ maxSlots ∧
      ∃ l r, slots = l ++ r ∧ containerPush maxSlots slots seq slot = (l ++ ⟨slot, seq⟩ :: r, true, false) ∧
        SortedSeq (l ++ ⟨slot, seq⟩ :: r)) := by
  obtain ⟨l, r, rfl, h2, h3, h4⟩ := search_sorted slots seq hs
  rcases h4 with ⟨e, r', rfl, hq⟩ | h4
  · left
    refine ⟨⟨e, by simp, hq⟩, ?_⟩
    unfold containerPush
    simp only [← h2]
    rw [if_neg (length_lt_mid l r' e), getD_mid, if_neg (not_not_intro hq)]
  · right
    have hno := absent_of_split h3 h4
    -- a new number goes in at the index found: at the end, or in front of a larger one
    have hins : containerPush maxSlots (l ++ r) seq slot =
        if ((l ++ r).length : Int) ≥ maxSlots then (l ++ r, false, true) else (l ++ ⟨slot, seq⟩ :: r, true, false) := by
      unfold containerPush
      simp only [← h2]
      cases r with
      | nil => simp
      | cons e r' =>
        rw [if_neg (length_lt_mid l r' e), getD_mid, if_pos (Int.ne_of_gt (h4 e (List.mem_cons_self ..))),
          List.take_left, List.drop_left]
    rw [hins]
    by_cases hm : ((l ++ r).length : Int) ≥ maxSlots
    · left; exact ⟨hno, hm, by rw [if_pos hm]⟩
    · right
      refine ⟨hno, hm, l, r, rfl, by rw [if_neg hm], ?_⟩
      obtain ⟨p1, p2, p3⟩ := List.pairwise_append.mp hs
      refine List.pairwise_append.mpr ⟨p1, List.pairwise_cons.mpr ⟨h4, p2⟩, ?_⟩
      intro a ha b hb
      rcases List.mem_cons.mp hb with rfl | hb
      · exact h3 a ha
      · exact p3 a ha b hb

/-- One parked packet: its sequence number, the *original* index the offsetter stored for it
(position in the stream of all bytes saved since the index was last empty) and its bytes. -/
structure GE where
  seq : Int
  o : Nat
  bytes : Bytes

def toParked (G : List GE) : List (Int × Bytes) := G.map (fun g => (g.seq, g.bytes))
def toSSlot (g : GE) : SSlot := ⟨⟨(g.o : Int), (g.bytes.length : Int)⟩, g.seq⟩
def glen (G : List GE) : Nat := (flat (toParked G)).length

theorem glen_nil : glen [] = 0 := rfl
theorem glen_cons (g : GE) (r : List GE) : glen (g :: r) = g.bytes.length + glen r := by
  simp [glen, toParked, flat]
theorem glen_append (G1 G2 : List GE) : glen (G1 ++ G2) = glen G1 + glen G2 := by
  induction G1 with
  | nil => simp [glen_nil]
  | cons g r ih => rw [List.cons_append, glen_cons, glen_cons, ih, Nat.add_assoc]

theorem glen_snoc (G : List GE) (g : GE) : glen (G ++ [g]) = glen G + g.bytes.length := by
  rw [glen_append, glen_cons, glen_nil]; rfl

theorem glen_mid (G1 G2 : List GE) (g : GE) : glen (G1 ++ g :: G2) = glen (G1 ++ G2) + g.bytes.length := by
  rw [glen_append, glen_append, glen_cons, Nat.add_comm g.bytes.length, Nat.add_assoc]

theorem toParked_append (G1 G2 : List GE) : toParked (G1 ++ G2) = toParked G1 ++ toParked G2 := by
  simp [toParked]

theorem toParked_length (G : List GE) : (toParked G).length = G.length := List.length_map _

theorem flat_toParked_append (G1 G2 : List GE) : flat (toParked (G1 ++ G2)) = flat (toParked G1) ++ flat (toParked G2) := by
  rw [toParked_append, flat_append]

theorem nodup_unique {G1 G2 : List GE} {g : GE}
    (h : (G1 ++ g :: G2).Pairwise (fun g1 g2 => g1.seq ≠ g2.seq)) :
    (∀ x ∈ G1, x.seq ≠ g.seq) ∧ (∀ x ∈ G2, x.seq ≠ g.seq) := by
  rw [List.pairwise_append, List.pairwise_cons] at h
  obtain ⟨_, ⟨h2, _⟩, h3⟩ := h
  exact ⟨fun x hx => h3 x hx g (List.mem_cons_self ..), fun x hx hq => h2 x hx hq.symm⟩

/-! Lists of pairs keyed by sequence number or handle (`toParked`, and the slots the caller of a bare
offsetter holds): looking a key up and filtering it out. -/

theorem lookup_keyed_none {β : Type} (f : GE → β) (G : List GE) (k : Int) (h : ¬ ∃ g ∈ G, g.seq = k) :
    (G.map fun g => (g.seq, f g)).lookup k = none := by
  induction G with
  | nil => rfl
  | cons g r ih =>
    have hk : (k == g.seq) = false := by
      rw [beq_eq_false_iff_ne]; exact fun hq => h ⟨g, List.mem_cons_self .., hq.symm⟩
    rw [List.map_cons, List.lookup_cons, hk]
    exact ih fun ⟨x, hx, hq⟩ => h ⟨x, List.mem_cons_of_mem _ hx, hq⟩

theorem lookup_keyed_some {β : Type} (f : GE → β) (G1 G2 : List GE) (g : GE) (h : ∀ x ∈ G1, x.seq ≠ g.seq) :
    ((G1 ++ g :: G2).map fun g => (g.seq, f g)).lookup g.seq = some (f g) := by
  induction G1 with
  | nil => rw [List.nil_append, List.map_cons, List.lookup_cons, beq_self_eq_true]
  | cons x r ih =>
    have hk : (g.seq == x.seq) = false := by
      rw [beq_eq_false_iff_ne]; exact fun hq => h x (List.mem_cons_self ..) hq.symm
    rw [List.cons_append, List.map_cons, List.lookup_cons, hk]
    exact ih fun y hy => h y (List.mem_cons_of_mem _ hy)

theorem filter_keyed {β : Type} (f : GE → β) (G1 G2 : List GE) (g : GE)
    (h1 : ∀ x ∈ G1, x.seq ≠ g.seq) (h2 : ∀ x ∈ G2, x.seq ≠ g.seq) :
    ((G1 ++ g :: G2).map fun g => (g.seq, f g)).filter (fun p => p.1 != g.seq) =
      (G1 ++ G2).map fun g => (g.seq, f g) := by
  have keep : ∀ G : List GE, (∀ x ∈ G, x.seq ≠ g.seq) →
      (G.map fun g => (g.seq, f g)).filter (fun p => p.1 != g.seq) = G.map fun g => (g.seq, f g) := by
    intro G hG
    apply List.filter_eq_self.mpr
    intro p hp
    obtain ⟨x, hx, rfl⟩ := List.mem_map.mp hp
    simpa using hG x hx
  simp only [List.map_append, List.map_cons, List.filter_append, List.filter_cons]
  rw [if_neg (by simp), keep G1 h1, keep G2 h2]

theorem lookup_toParked_none (G : List GE) (seq : Int) (h : ¬ ∃ g ∈ G, g.seq = seq) :
    (toParked G).lookup seq = none := lookup_keyed_none _ G seq h

/-- The index `Save` reports for a packet: the end of the save area, or 0 for an empty packet. -/
def sidx (G : List GE) (pkt : Bytes) : Int := if pkt = [] then 0 else glen G

theorem sidx_le (G : List GE) (pkt : Bytes) : 0 ≤ sidx G pkt ∧ sidx G pkt ≤ glen G := by
  unfold sidx
  split
  · exact ⟨Int.le_refl _, Int.natCast_nonneg _⟩
  · exact ⟨Int.natCast_nonneg _, Int.le_refl _⟩

/-- `Write; Commit; Save`; the last part is the `Discard` that follows a refused `Push` / `Add`. -/
theorem feed_parked {b : Buf} {G : List GE} {rd : Bytes} (bytes : Bytes) (n : Int) (h : BufOk b (flat (toParked G)) rd)
    {k : Nat} {pkt rest : Bytes} (hk : k = saveLen n (rd ++ bytes).length) (hp : pkt = (rd ++ bytes).take k)
    (hr : rest = (rd ++ bytes).drop k) :
    (feed b bytes n).2 = ⟨sidx G pkt, pkt.length⟩ ∧ pkt.length = k ∧
    (∀ key o, BufOk (feed b bytes n).1 (flat (toParked (G ++ [⟨key, o, pkt⟩]))) rest) ∧
    ∃ b' r, (feed b bytes n).1.discard (feed b bytes n).2 = some (b', r) ∧ BufOk b' (flat (toParked G)) rest := by
  obtain ⟨hf1, hf2⟩ := feed_spec bytes n h
  rw [← hk] at hf1 hf2
  rw [← hp, ← hr] at hf1
  have hlen : pkt.length = k := by
    rw [hp, List.length_take, hk]; exact Nat.min_eq_left (saveLen_le ..)
  have hslot : (feed b bytes n).2 = ⟨sidx G pkt, pkt.length⟩ := by
    rw [hf2, ← hlen]
    unfold sidx
    by_cases h0 : pkt = []
    · rw [if_pos h0, if_pos (by rw [h0]; rfl), h0]; rfl
    · rw [if_neg h0, if_neg (fun hx => h0 (List.eq_nil_of_length_eq_zero hx))]; rfl
  obtain ⟨hs0, hs1⟩ := sidx_le G pkt
  have hdis := discard_at (A := flat (toParked G)) (B := pkt) (C := []) (idx := sidx G pkt)
    (by rw [List.append_nil]; exact hf1) (fun hne => by unfold sidx; rw [if_neg hne]; rfl) hs0
    (by rw [List.append_nil, List.length_append]; exact Int.le_trans hs1 (Int.ofNat_le.mpr (Nat.le_add_right ..)))
  simp only [List.append_nil] at hdis
  rw [← hslot] at hdis
  refine ⟨hslot, hlen, fun key o => ?_, hdis.2.2⟩
  rw [toParked_append]
  show BufOk _ (flat (_ ++ [(key, pkt)])) _
  rw [flat_snoc]; exact hf1

theorem parked_remove {b : Buf} {G1 G2 : List GE} {g : GE} {rd : Bytes} {idx : Int}
    (hb : BufOk b (flat (toParked (G1 ++ g :: G2))) rd)
    (hn : (G1 ++ g :: G2).Pairwise (fun g1 g2 => g1.seq ≠ g2.seq))
    (hi : g.bytes ≠ [] → idx = glen G1) (h0 : 0 ≤ idx) (h1 : idx ≤ glen (G1 ++ g :: G2)) :
    (toParked (G1 ++ g :: G2)).lookup g.seq = some g.bytes ∧
    without (toParked (G1 ++ g :: G2)) g.seq = toParked (G1 ++ G2) ∧
    Addresses (toParked (G1 ++ g :: G2)) g.bytes idx g.bytes.length (b.savedSlot ⟨idx, g.bytes.length⟩) ∧
    ∃ b' r, b.discard ⟨idx, g.bytes.length⟩ = some (b', r) ∧ BufOk b' (flat (toParked (G1 ++ G2))) rd := by
  obtain ⟨hu1, hu2⟩ := nodup_unique hn
  have hflat : flat (toParked (G1 ++ g :: G2)) = flat (toParked G1) ++ g.bytes ++ flat (toParked G2) := by
    rw [flat_toParked_append, List.append_assoc]; rfl
  rw [hflat] at hb
  obtain ⟨hslice, hsl, hd⟩ := discard_at hb hi h0 (by rw [← hflat]; exact h1)
  refine ⟨lookup_keyed_some _ G1 G2 g hu1, filter_keyed _ G1 G2 g hu1 hu2, ⟨by rw [hflat]; exact hslice, hsl⟩, ?_⟩
  rw [flat_toParked_append]; exact hd

/-- Every non-empty packet sits where the tree says: original index = current position + everything
discarded at or before it. `pos` is the current position of the head of the list. (The original
index of an empty packet carries no information: `Save` reports `Slot{0, 0}` for it.) -/
def Placed (a : Nat → Int) : Int → List GE → Prop
  | _, [] => True
  | pos, g :: r => (g.bytes ≠ [] → (g.o : Int) = pos + psum a (g.o + 1)) ∧ Placed a (pos + g.bytes.length) r

theorem placed_append (a : Nat → Int) (G1 G2 : List GE) : ∀ pos,
    Placed a pos (G1 ++ G2) ↔ Placed a pos G1 ∧ Placed a (pos + glen G1) G2 := by
  induction G1 with
  | nil => intro pos; simp [Placed, glen_nil]
  | cons g r ih =>
    intro pos
    simp only [List.cons_append, Placed, ih, glen_cons, Int.natCast_add]
    rw [Int.add_assoc]
    exact and_assoc.symm

theorem placed_range (a : Nat → Int) (G : List GE) : ∀ pos, Placed a pos G → ∀ g ∈ G, g.bytes ≠ [] →
    pos ≤ (g.o : Int) - psum a (g.o + 1) ∧ (g.o : Int) - psum a (g.o + 1) + g.bytes.length ≤ pos + glen G := by
  induction G with
  | nil => intro pos _ g hg; cases hg
  | cons x r ih =>
    intro pos hp g hg hne
    obtain ⟨h1, h2⟩ := hp
    rw [glen_cons]
    rcases List.mem_cons.mp hg with rfl | hg
    · have := h1 hne
      simp only [Int.natCast_add]; omega
    · have := ih _ h2 g hg hne
      simp only [Int.natCast_add]; omega

theorem placed_shift (a a' : Nat → Int) (c : Int) (G : List GE) : ∀ pos,
    (∀ g ∈ G, g.bytes ≠ [] → psum a' (g.o + 1) = psum a (g.o + 1) + c) → Placed a pos G → Placed a' (pos - c) G := by
  induction G with
  | nil => intro pos _ _; trivial
  | cons x r ih =>
    intro pos hc hp
    obtain ⟨h1, h2⟩ := hp
    refine ⟨?_, ?_⟩
    · intro hne
      rw [hc x (List.mem_cons_self ..) hne]; have := h1 hne; omega
    · have := ih (pos + x.bytes.length) (fun g hg => hc g (List.mem_cons_of_mem _ hg)) h2
      rw [show pos - c + ↑x.bytes.length = pos + ↑x.bytes.length - c by omega]; exact this

def liveFrom : List GE → Nat → Int
  | [], _ => 0
  | g :: r, x => (if x ≤ g.o then (g.bytes.length : Int) else 0) + liveFrom r x

theorem liveFrom_append (G1 G2 : List GE) (x : Nat) : liveFrom (G1 ++ G2) x = liveFrom G1 x + liveFrom G2 x := by
  induction G1 with
  | nil => simp [liveFrom]
  | cons g r ih => simp only [List.cons_append, liveFrom, ih]; omega

theorem liveFrom_nonneg (G : List GE) (x : Nat) : 0 ≤ liveFrom G x := by
  induction G with
  | nil => exact Int.le_refl 0
  | cons g r ih => simp only [liveFrom]; split <;> omega

theorem liveFrom_zero (G : List GE) (x : Nat) (h : ∀ g ∈ G, g.bytes ≠ [] → g.o < x) : liveFrom G x = 0 := by
  induction G with
  | nil => rfl
  | cons g r ih =>
    simp only [liveFrom]
    rw [ih (fun y hy => h y (List.mem_cons_of_mem _ hy))]
    by_cases hb : g.bytes = []
    · simp [hb]
    · have := h g (List.mem_cons_self ..) hb
      rw [if_neg (by omega)]; rfl

/-! ## slot.go (regenerated definition) -/

/-- `simp` decides the two tests wherever the regenerated definition makes them, so a reordering of the clamps
does not break the proof. -/
theorem offsetSlot_eq (off : Int) (slot : Slot) (h0 : 0 ≤ off) (h1 : 0 ≤ slot.Index) (h2 : slot.Index ≤ Go.I64MAX) :
    OffsetSlot off slot = ⟨slot.Index - (if off > slot.Index then slot.Index else off), slot.Length⟩ := by
  have key : ∀ x : Int, 0 ≤ x → x ≤ slot.Index → Go.sub slot.Index x = slot.Index - x :=
    fun x hx0 hx1 => Go.sub_eq (by omega)
  have hn : ¬ off < 0 := Int.not_lt.mpr h0
  unfold OffsetSlot
  by_cases hc : off > slot.Index
  · simp only [hn, hc, if_true, if_false]
    rw [key _ h1 (Int.le_refl _)]
  · simp only [hn, hc, if_false]
    rw [key _ h0 (Int.not_lt.mp hc)]

/-! ## slot_offsetter.go against the ghost description -/

/-- The tree describes the discarded lengths `a` (by original index) and the parked packets `G`. -/
structure OffOk (t : Tree) (a : Nat → Int) (G : List GE) : Prop where
  fen : Fen t a
  nonneg : ∀ x, 0 ≤ a x
  supp : ∀ x, t.length ≤ x → a x = 0
  /-- everything discarded lies inside the stream of bytes saved since the last reset -/
  bound : ∀ x, a x ≠ 0 → (x : Int) < glen G + psum a t.length
  inTree : ∀ g ∈ G, g.o < t.length
  placed : Placed a 0 G
  /-- `Add` hands out original indices in the order of the stream: among the non-empty packets an older one
  has the smaller index -/
  ordered : G.Pairwise (fun g1 g2 => g1.bytes ≠ [] → g2.bytes ≠ [] → g1.o < g2.o)
  /-- for an empty packet `Save` reports `Slot{0, 0}` and `Add` records the bytes discarded so far as its index:
  all that is known of it is that it does not lie beyond the end of the stream -/
  zbound : ∀ g ∈ G, g.bytes = [] → (g.o : Int) ≤ glen G + psum a t.length
  /-- the slots (parked or discarded) that start at or after `x` fit between `x` and the end of the stream -/
  packed : ∀ x : Nat, (x : Int) ≤ glen G + psum a t.length →
    psum a t.length - psum a x + liveFrom G x ≤ glen G + psum a t.length - x

theorem off_empty {t : Tree} (hf : Fen t fun _ => 0) : OffOk t (fun _ => 0) [] := by
  refine ⟨hf, fun _ => Int.le_refl 0, fun _ _ => rfl, fun x hx => absurd rfl hx, nofun, trivial,
    List.Pairwise.nil, nofun, ?_⟩
  intro x hx
  simp only [psum_zero, glen_nil, liveFrom] at hx ⊢
  omega

theorem off_reset (t : Tree) : OffOk t.reset (fun _ => 0) [] := off_empty (fen_reset t)

theorem off_new (n : Int) : OffOk (Tree.new n) (fun _ => 0) [] := off_empty (fen_new n)

namespace OffOk

/-- The end of the stream is `glen G + psum a |t|`: the bytes parked plus the bytes discarded.  No offset at or beyond it
has been discarded, so the prefix sum is constant from there. -/
theorem psum_end {t : Tree} {a : Nat → Int} {G : List GE} (h : OffOk t a G) {y : Nat}
    (hy : (glen G : Int) + psum a t.length ≤ y) : psum a y = psum a t.length := by
  have hvan : ∀ z, y ≤ z → a z = 0 := fun z hz => Decidable.byContradiction fun hne => by
    exact Int.lt_irrefl _ (Int.lt_of_lt_of_le (h.bound z hne) (Int.le_trans hy (Int.ofNat_le.mpr hz)))
  rw [← psum_const a y hvan (Nat.le_max_left y t.length), psum_const a t.length h.supp (Nat.le_max_right y t.length)]

theorem o_add_le {t : Tree} {a : Nat → Int} {G : List GE} (h : OffOk t a G) {g : GE} (hg : g ∈ G)
    (hne : g.bytes ≠ []) : (g.o : Int) + g.bytes.length ≤ glen G + psum a t.length := by
  have hr := placed_range a G 0 h.placed g hg hne
  have hm := psum_mono a h.nonneg (show g.o + 1 ≤ t.length from h.inTree g hg)
  omega

/-- The index `Offset` computes for a parked packet (its original index less what was discarded at or
before it, clamped as `OffsetSlot` clamps) lies inside the save area. -/
theorem clamp_le {t : Tree} {a : Nat → Int} {G : List GE} (h : OffOk t a G) {g : GE} (hg : g ∈ G) :
    (g.o : Int) - (if psum a (g.o + 1) > (g.o : Int) then (g.o : Int) else psum a (g.o + 1)) ≤ glen G := by
  split
  · rw [Int.sub_self]; exact Int.natCast_nonneg _
  · by_cases hne : g.bytes = []
    · -- an empty packet: what starts at or after its index fits in front of the end of the stream
      have hp := h.packed g.o (h.zbound g hg hne)
      have hl := liveFrom_nonneg G g.o
      have ha := h.nonneg g.o
      show (g.o : Int) - (psum a g.o + a g.o) ≤ glen G
      omega
    · have := placed_range a G 0 h.placed g hg hne
      omega

end OffOk

/-- `Add` of the slot `Save` just returned for `pkt`. -/
theorem off_add {t : Tree} {a : Nat → Int} {G : List GE} (h : OffOk t a G) (key : Int) (pkt : Bytes) :
    offsetterAdd t ⟨sidx G pkt, pkt.length⟩ =
      (if sidx G pkt + psum a t.length ≥ t.length then none else some ⟨sidx G pkt + psum a t.length, pkt.length⟩) ∧
    (¬ sidx G pkt + psum a t.length ≥ t.length →
      ∃ o : Nat, (o : Int) = sidx G pkt + psum a t.length ∧ OffOk t a (G ++ [⟨key, o, pkt⟩])) := by
  refine ⟨by unfold offsetterAdd Tree.size; rw [sum_spec h.fen], fun hlt => ?_⟩
  -- the new original index `o`: the end of the stream for a non-empty packet
  obtain ⟨o, ho⟩ : ∃ o : Nat, (o : Int) = sidx G pkt + psum a t.length :=
    ⟨_, Int.toNat_of_nonneg (Int.add_nonneg (sidx_le G pkt).1 (psum_nonneg a h.nonneg _))⟩
  have hon : o < t.length := Int.ofNat_lt.mp (by rw [ho]; exact Int.not_le.mp hlt)
  have hoE : pkt ≠ [] → (o : Int) = glen G + psum a t.length := fun hne => by
    rw [ho]; unfold sidx; rw [if_neg hne]
  have hoZ : pkt = [] → (o : Int) = psum a t.length := fun he => by
    rw [ho]; unfold sidx; rw [if_pos he, Int.zero_add]
  refine ⟨o, ho, ?_⟩
  have hglen : (glen (G ++ [⟨key, o, pkt⟩]) : Int) = glen G + pkt.length := by
    rw [glen_snoc]; exact Int.natCast_add _ _
  have hmono : (glen G : Int) + psum a t.length ≤ glen (G ++ [⟨key, o, pkt⟩]) + psum a t.length :=
    Int.add_le_add_right (Int.ofNat_le.mpr (by rw [glen_snoc]; exact Nat.le_add_right ..)) _
  refine ⟨h.fen, h.nonneg, h.supp, ?_, ?_, ?_, ?_, ?_, ?_⟩
  · exact fun x hx => Int.lt_of_lt_of_le (h.bound x hx) hmono
  · intro g hg
    rcases List.mem_append.mp hg with hg | hg
    · exact h.inTree g hg
    · rw [List.mem_singleton.mp hg]; exact hon
  · rw [placed_append]
    refine ⟨h.placed, fun hne => ?_, trivial⟩
    rw [h.psum_end (y := o + 1) (by rw [← hoE hne]; exact Int.ofNat_le.mpr (Nat.le_succ o)), Int.zero_add]
    exact hoE hne
  · refine List.pairwise_append.mpr ⟨h.ordered, List.pairwise_singleton .., ?_⟩
    intro g hg b hb hne1 hne2
    rw [List.mem_singleton.mp hb] at hne2 ⊢
    have := h.o_add_le hg hne1
    have := hoE hne2
    have := List.length_pos_iff.mpr hne1
    show g.o < o
    omega
  · intro g hg hz
    rcases List.mem_append.mp hg with hg | hg
    · exact Int.le_trans (h.zbound g hg hz) hmono
    · rw [List.mem_singleton.mp hg] at hz ⊢
      rw [hoZ hz]; exact Int.le_add_of_nonneg_left (Int.natCast_nonneg _)
  · intro x hx
    rw [hglen] at hx ⊢
    rw [liveFrom_append]
    show _ - _ + (_ + ((if x ≤ o then (pkt.length : Int) else 0) + 0)) ≤ _
    by_cases hxE : (x : Int) ≤ glen G + psum a t.length
    · have := h.packed x hxE
      have : (if x ≤ o then (pkt.length : Int) else 0) ≤ pkt.length := by
        split
        · exact Int.le_refl _
        · exact Int.natCast_nonneg _
      omega
    · -- beyond the old end of the stream nothing starts, and the new packet itself starts in front of `x`
      have hne : pkt ≠ [] := fun h0 => hxE (by rw [h0] at hx; exact Int.le_trans hx (by simp))
      have hox : o < x := by have := hoE hne; omega
      rw [h.psum_end (Int.le_of_lt (Int.not_le.mp hxE)), if_neg (Nat.not_le.mpr hox),
        liveFrom_zero G x (fun g hg hne' => by have := h.o_add_le hg hne'; omega)]
      omega

theorem tail_offset (a : Nat → Int) (G1 G2 : List GE) (g : GE) (n x : Nat) (hon : g.o < n) :
    psum (upd a g.o g.bytes.length) n - psum (upd a g.o g.bytes.length) x + liveFrom (G1 ++ G2) x =
      psum a n - psum a x + liveFrom (G1 ++ g :: G2) x := by
  rw [psum_upd, psum_upd, liveFrom_append, liveFrom_append, if_pos hon]
  show _ = _ - _ + (_ + ((if x ≤ g.o then (g.bytes.length : Int) else 0) + _))
  by_cases hx : x ≤ g.o
  · rw [if_pos hx, if_neg (Nat.not_lt.mpr hx)]; omega
  · rw [if_neg hx, if_pos (Nat.lt_of_not_le hx)]; omega

theorem offset_inv {t : Tree} {a : Nat → Int} {G1 G2 : List GE} {g : GE} (h : OffOk t a (G1 ++ g :: G2)) :
    OffOk (t.add g.o g.bytes.length) (upd a g.o g.bytes.length) (G1 ++ G2) := by
  have hgin : g ∈ G1 ++ g :: G2 := List.mem_append_right _ (List.mem_cons_self ..)
  have hon : g.o < t.length := h.inTree g hgin
  have hsub := (sublist_mid G1 G2 g).subset
  obtain ⟨hp1, _, hp2⟩ := (placed_append a G1 (g :: G2) 0).mp h.placed
  obtain ⟨_, ho2, ho3⟩ := List.pairwise_append.mp h.ordered
  have hE : (glen (G1 ++ G2) : Int) + psum (upd a g.o g.bytes.length) (t.add g.o g.bytes.length).length =
      glen (G1 ++ g :: G2) + psum a t.length := by
    rw [add_length, psum_upd, if_pos hon, glen_mid, Int.natCast_add]; omega
  refine ⟨fen_add h.fen _ _, ?_, ?_, ?_, ?_, ?_, h.ordered.sublist (sublist_mid G1 G2 g), ?_, ?_⟩
  · intro x
    unfold upd
    split
    · exact Int.add_nonneg (h.nonneg x) (Int.natCast_nonneg _)
    · exact h.nonneg x
  · intro x hx
    rw [add_length] at hx
    unfold upd
    rw [if_neg (Nat.ne_of_gt (Nat.lt_of_lt_of_le hon hx))]; exact h.supp x hx
  · intro x hx
    rw [hE]
    by_cases hax : a x = 0
    · -- the cell that changed
      have hxo : x = g.o := Decidable.byContradiction fun hne => hx (by unfold upd; rw [if_neg hne]; exact hax)
      have hne : g.bytes ≠ [] := fun h0 => hx (by unfold upd; rw [if_pos hxo, hax, h0]; rfl)
      have := h.o_add_le hgin hne
      have := List.length_pos_iff.mpr hne
      omega
    · exact h.bound x hax
  · intro x hx
    rw [add_length]; exact h.inTree x (hsub hx)
  · -- the packets in front of `g` stay where they are, those behind it move up by its length
    rw [placed_append]
    constructor
    · have := placed_shift a (upd a g.o g.bytes.length) 0 G1 0 (fun x hx hne => by
        rw [psum_upd]
        by_cases hg0 : g.bytes = []
        · rw [hg0]; simp
        · rw [if_neg (Nat.not_lt.mpr (ho3 x hx g (List.mem_cons_self ..) hne hg0))]) hp1
      rwa [Int.sub_zero] at this
    · have := placed_shift a (upd a g.o g.bytes.length) g.bytes.length G2 _ (fun x hx hne => by
        rw [psum_upd]
        by_cases hg0 : g.bytes = []
        · rw [hg0]; simp
        · rw [if_pos (Nat.lt_succ_of_lt ((List.pairwise_cons.mp ho2).1 x hx hg0 hne))]) hp2
      rwa [Int.add_sub_cancel] at this
  · intro x hx hz
    rw [hE]; exact h.zbound x (hsub hx) hz
  · intro x hx
    rw [hE] at hx ⊢
    rw [add_length, tail_offset a G1 G2 g _ x hon]
    exact h.packed x hx

/-- `Offset`; for an empty packet the slot returned is only known to lie inside the save area. -/
theorem off_offset {t : Tree} {a : Nat → Int} {G1 G2 : List GE} {g : GE} (h : OffOk t a (G1 ++ g :: G2))
    (hI : (t.length : Int) ≤ Go.I64MAX) :
    ∃ idx : Int, offsetterOffset t ⟨g.o, g.bytes.length⟩ = some (t.add g.o g.bytes.length, ⟨idx, g.bytes.length⟩) ∧
      (g.bytes ≠ [] → idx = glen G1) ∧ 0 ≤ idx ∧ idx ≤ glen (G1 ++ g :: G2) ∧
      OffOk (t.add g.o g.bytes.length) (upd a g.o g.bytes.length) (G1 ++ G2) ∧
      psum (upd a g.o g.bytes.length) t.length = psum a t.length + g.bytes.length := by
  have hgin : g ∈ G1 ++ g :: G2 := List.mem_append_right _ (List.mem_cons_self ..)
  have hon : g.o < t.length := h.inTree g hgin
  have hlt : (g.o : Int) < t.length := Int.ofNat_lt.mpr hon
  have hP0 : 0 ≤ psum a (g.o + 1) := psum_nonneg a h.nonneg _
  refine ⟨(g.o : Int) - (if psum a (g.o + 1) > (g.o : Int) then (g.o : Int) else psum a (g.o + 1)),
    ?_, ?_, ?_, h.clamp_le hgin, offset_inv h, by rw [psum_upd, if_pos hon]⟩
  · unfold offsetterOffset Tree.size
    rw [if_neg (not_or.mpr ⟨Int.not_lt.mpr (Int.natCast_nonneg _), Int.not_le.mpr hlt⟩)]
    simp only [Int.toNat_natCast]
    rw [sumUntil_spec h.fen g.o hon,
      offsetSlot_eq _ ⟨g.o, g.bytes.length⟩ hP0 (Int.natCast_nonneg g.o) (Int.le_trans (Int.le_of_lt hlt) hI)]
  · intro hne
    have := ((placed_append a G1 (g :: G2) 0).mp h.placed).2.1 hne
    rw [if_neg (by omega)]; omega
  · by_cases hc : psum a (g.o + 1) > (g.o : Int)
    · rw [if_pos hc, Int.sub_self]; exact Int.le_refl _
    · rw [if_neg hc]; exact Int.sub_nonneg.mpr (Int.not_lt.mp hc)

/-! ## slot_sequencer.go against the ghost description -/

/-- What a `SlotSequencer` keeps (`maxBytes`, `bytes`, the sorted `sequencedSlots`, the offsetter's tree of `maxBytes`
cells) against the packets `G`, oldest first, and the discards `a`. -/
structure IdxOk (q : Seqr) (a : Nat → Int) (G : List GE) : Prop where
  nLo : 0 ≤ q.maxBytes
  nHi : q.maxBytes ≤ Go.I64MAX
  treeLen : (q.tree.length : Int) = q.maxBytes
  sorted : SortedSeq q.slots
  mem : ∀ e, e ∈ q.slots ↔ e ∈ G.map toSSlot
  len : q.slots.length = G.length
  nodup : G.Pairwise (fun g1 g2 => g1.seq ≠ g2.seq)
  bytes : q.bytes = glen G
  off : OffOk q.tree a G

theorem idx_dup_iff {q : Seqr} {a : Nat → Int} {G : List GE} (h : IdxOk q a G) (seq : Int) :
    (∃ e ∈ q.slots, e.seq = seq) ↔ (∃ g ∈ G, g.seq = seq) := by
  constructor
  · rintro ⟨e, he, hq⟩
    obtain ⟨g, hg, rfl⟩ := List.mem_map.mp ((h.mem e).mp he)
    exact ⟨g, hg, hq⟩
  · rintro ⟨g, hg, hq⟩
    exact ⟨toSSlot g, (h.mem _).mpr (List.mem_map.mpr ⟨g, hg, rfl⟩), hq⟩

theorem idxOk_empty (q : Seqr) (h0 : 0 ≤ q.maxBytes) (h1 : q.maxBytes ≤ Go.I64MAX) (ht : (q.tree.length : Int) = q.maxBytes)
    (hs : q.slots = []) (hb : q.bytes = 0) (ho : OffOk q.tree (fun _ => 0) []) : IdxOk q (fun _ => 0) [] :=
  ⟨h0, h1, ht, by rw [hs]; exact List.Pairwise.nil, by rw [hs]; exact fun _ => Iff.rfl, by rw [hs]; rfl,
    List.Pairwise.nil, hb, ho⟩

/-- `Push` of the slot `Save` just returned for the packet `pkt` (it sits at the end of the save
area; an empty packet is reported as `Slot{0, 0}`). -/
theorem push_spec {q : Seqr} {a : Nat → Int} {G : List GE} (h : IdxOk q a G) (seq : Int) (pkt : Bytes) :
    ∃ q' ok err, q.push seq ⟨sidx G pkt, pkt.length⟩ = (q', ok, err) ∧
      -- refused: nothing changes; an error names a limit, silence a number already parked
      (ok = false → q' = q ∧
        (err = true → (glen G : Int) + pkt.length > q.maxBytes ∨ (G.length : Int) ≥ q.maxSlots ∨
          sidx G pkt + psum a q.tree.length ≥ q.maxBytes) ∧
        (err = false → ∃ g ∈ G, g.seq = seq)) ∧
      (ok = true →
        -- accepted: no error, the number is new, neither limit is hit
        err = false ∧ (¬ ∃ g ∈ G, g.seq = seq) ∧ ¬ (glen G : Int) + pkt.length > q.maxBytes ∧
        ¬ (G.length : Int) ≥ q.maxSlots ∧
        -- limits and tree stay
        q'.maxBytes = q.maxBytes ∧ q'.maxSlots = q.maxSlots ∧ q'.tree = q.tree ∧
        -- the packet is recorded behind the others under the index `Add` gives it: the slot's plus everything discarded
        ∃ o : Nat, (o : Int) = sidx G pkt + psum a q.tree.length ∧ IdxOk q' a (G ++ [⟨seq, o, pkt⟩])) := by
  obtain ⟨hadd, hoff'⟩ := off_add h.off seq pkt
  rw [h.treeLen] at hadd hoff'
  unfold Seqr.push
  by_cases hb : (glen G : Int) + pkt.length > q.maxBytes
  · exact ⟨q, false, true, by rw [if_pos (by rw [h.bytes]; exact hb)], fun _ => ⟨rfl, fun _ => Or.inl hb, nofun⟩, nofun⟩
  rw [if_neg (by rw [h.bytes]; exact hb), hadd]
  by_cases ha : sidx G pkt + psum a q.tree.length ≥ q.maxBytes
  · exact ⟨q, false, true, by rw [if_pos ha], fun _ => ⟨rfl, fun _ => Or.inr (Or.inr ha), nofun⟩, nofun⟩
  rw [if_neg ha]
  dsimp only
  rcases containerPush_spec q.maxSlots q.slots seq ⟨sidx G pkt + psum a q.tree.length, pkt.length⟩ h.sorted with
    ⟨hd, he⟩ | ⟨hd, hm, he⟩ | ⟨hd, hm, l, r, hl, he, hso⟩
  · exact ⟨q, false, false, by rw [he]; rfl, fun _ => ⟨rfl, nofun, fun _ => (idx_dup_iff h seq).mp hd⟩, nofun⟩
  · exact ⟨q, false, true, by rw [he]; rfl,
      fun _ => ⟨rfl, fun _ => Or.inr (Or.inl (by rw [← h.len]; exact hm)), nofun⟩, nofun⟩
  · have hnd : ¬ ∃ g ∈ G, g.seq = seq := fun hx => hd ((idx_dup_iff h seq).mpr hx)
    refine ⟨{ q with slots := l ++ ⟨⟨sidx G pkt + psum a q.tree.length, pkt.length⟩, seq⟩ :: r,
                     bytes := q.bytes + pkt.length }, true, false, by rw [he]; exact if_pos ⟨rfl, rfl⟩, nofun,
      fun _ => ⟨rfl, hnd, hb, by rw [← h.len]; exact hm, rfl, rfl, rfl, ?_⟩⟩
    obtain ⟨o, ho, hoff''⟩ := hoff' ha
    have hto : toSSlot ⟨seq, o, pkt⟩ = ⟨⟨sidx G pkt + psum a q.tree.length, pkt.length⟩, seq⟩ := by
      unfold toSSlot; rw [ho]
    refine ⟨o, ho, h.nLo, h.nHi, h.treeLen, hso, ?_, ?_, ?_, ?_, hoff''⟩
    · intro e
      have hm := h.mem e
      rw [hl] at hm
      simp only [List.map_append, List.map_cons, List.map_nil, List.mem_append, List.mem_cons, List.not_mem_nil,
        or_false, hto] at hm ⊢
      rw [← hm, or_assoc, or_comm (a := e ∈ r)]
    · rw [length_mid, ← hl, h.len, List.length_append]; rfl
    · refine List.pairwise_append.mpr ⟨h.nodup, List.pairwise_singleton .., ?_⟩
      intro g hg b hb
      rw [List.mem_singleton.mp hb]
      exact fun hq => hnd ⟨g, hg, hq⟩
    · rw [h.bytes, glen_snoc]; exact (Int.natCast_add ..).symm

theorem pop_miss {q : Seqr} {a : Nat → Int} {G : List GE} (h : IdxOk q a G) {seq : Int}
    (hno : ¬ ∃ g ∈ G, g.seq = seq) : q.pop seq = some (q, ⟨0, 0⟩, false) := by
  unfold Seqr.pop
  rcases containerPop_spec q.slots seq h.sorted with ⟨_, he⟩ | ⟨l, e, r, hl, hq, _⟩
  · rw [he]; simp
  · exfalso
    exact hno ((idx_dup_iff h seq).mp ⟨e, by rw [hl]; simp, hq⟩)

theorem pop_hit {q : Seqr} {a : Nat → Int} {G1 G2 : List GE} {g : GE} (h : IdxOk q a (G1 ++ g :: G2)) :
    ∃ q' a' idx, q.pop g.seq = some (q', ⟨idx, g.bytes.length⟩, true) ∧
      (g.bytes ≠ [] → idx = glen G1) ∧ 0 ≤ idx ∧ idx ≤ glen (G1 ++ g :: G2) ∧
      IdxOk q' a' (G1 ++ G2) ∧ q'.maxBytes = q.maxBytes ∧ q'.maxSlots = q.maxSlots ∧
      psum a' q'.tree.length = (if G1 ++ G2 = [] then 0 else psum a q.tree.length + g.bytes.length) := by
  obtain ⟨hu1, hu2⟩ := nodup_unique h.nodup
  obtain ⟨idx, hoff, hidx1, hidx2, hidx3, hoff', hpsn⟩ := off_offset h.off
    (by rw [h.treeLen]; exact h.nHi)
  rcases containerPop_spec q.slots g.seq h.sorted with ⟨hno, _⟩ | ⟨l, e, r, hl, hq, he⟩
  · exact absurd ((idx_dup_iff h g.seq).mpr ⟨g, by simp, rfl⟩) hno
  -- the element popped is the one that describes `g`: no other packet has its number
  have hee : e = toSSlot g := by
    obtain ⟨g', hg', rfl⟩ := List.mem_map.mp ((h.mem e).mp (by rw [hl]; simp))
    rcases List.mem_append.mp hg' with hx | hx
    · exact absurd hq (hu1 g' hx)
    · rcases List.mem_cons.mp hx with rfl | hx
      · rfl
      · exact absurd hq (hu2 g' hx)
  subst hee
  have hsl := h.sorted
  rw [hl] at hsl
  have hmem : ∀ x, x ∈ l ++ r ↔ x ∈ (G1 ++ G2).map toSSlot := by
    have hm := h.mem
    rw [hl] at hm
    simp only [List.map_append, List.map_cons] at hm ⊢
    refine mem_mid_iff hm (not_mem_mid (fun x => Int.lt_irrefl x.seq) hsl)
      (not_mem_mid (R := fun x y => x.seq ≠ y.seq) (fun x hx => hx rfl) ?_)
    have := (List.pairwise_map (f := toSSlot) (R := fun x y => x.seq ≠ y.seq)).mpr h.nodup
    rwa [List.map_append, List.map_cons] at this
  have hlen : (l ++ r).length = (G1 ++ G2).length := by
    have := h.len
    rw [hl, length_mid, length_mid] at this
    exact Nat.succ.inj this
  have hbytes : q.bytes - (g.bytes.length : Int) = glen (G1 ++ G2) := by
    rw [h.bytes, glen_mid, Int.natCast_add, Int.add_sub_cancel]
  have hoff2 : offsetterOffset q.tree (toSSlot g).slot =
      some (q.tree.add g.o g.bytes.length, ⟨idx, g.bytes.length⟩) := hoff
  unfold Seqr.pop
  rw [he]
  rw [if_pos rfl, hoff2]
  dsimp only
  have hdrained : (l ++ r).length = 0 ↔ G1 ++ G2 = [] := by rw [hlen]; exact List.length_eq_zero_iff
  by_cases hE : G1 ++ G2 = []
  · -- drained: the offsetter is reset
    rw [if_pos (hdrained.mpr hE), if_pos hE]
    refine ⟨_, fun _ => 0, idx, rfl, hidx1, hidx2, hidx3, ?_, rfl, rfl, psum_zero _⟩
    rw [hE] at hbytes ⊢
    exact idxOk_empty _ h.nLo h.nHi
      (by show ((Tree.reset _).length : Int) = _; rw [reset_length, add_length]; exact h.treeLen)
      (List.eq_nil_of_length_eq_zero (hdrained.mpr hE)) hbytes (off_reset _)
  · rw [if_neg (mt hdrained.mp hE), if_neg hE]
    refine ⟨_, upd a g.o g.bytes.length, idx, rfl, hidx1, hidx2, hidx3, ?_, rfl, rfl, ?_⟩
    · exact ⟨h.nLo, h.nHi, by show ((Tree.add _ _ _).length : Int) = _; rw [add_length]; exact h.treeLen,
        hsl.sublist (sublist_mid l r _), hmem, hlen, h.nodup.sublist (sublist_mid G1 G2 g), hbytes, hoff'⟩
    · rw [add_length]; exact hpsn

end Sonic.Lemmas.SlotsFacts
