/-
Helper lemmas for C11: the index invariant of `Sonic.Gen.MirroredBuffer` (regenerated from
bytes/mirrored_buffer.go) and, per method, what it computes under that invariant — with the 64-bit
wrap-around discharged and Go's `%` (`Int.tmod`) turned into the mathematical `%`; at the end the arithmetic of the
constructor's size rounding (`roundSize_facts`, `roundSize_accepts`, `mappable_facts`).
-/
import Sonic.Model.Mirrored
import Sonic.Lemmas.Ring

namespace Sonic.Props.C11
open Sonic.Gen.MirroredBuffer Sonic.Spec.Mirrored Sonic.Model.Mirrored
open Sonic.Spec.Bip (imin)

/-- Index invariant of the implementation state, for an arbitrary positive size (no power of two,
no page multiple assumed).  `2 * size` fits an `int` because the constructor has mapped `2 * size` bytes. -/
def Inv (b : MirroredBuffer) : Prop :=
  0 < b.size ∧ 2 * b.size ≤ Go.I64MAX ∧
  0 ≤ b.used ∧ b.used ≤ b.size ∧
  0 ≤ b.head ∧ b.head < b.size ∧ 0 ≤ b.tail ∧ b.tail < b.size ∧
  b.tail = (b.head + b.used) % b.size
instance (b : MirroredBuffer) : Decidable (Inv b) := by unfold Inv; exact inferInstance

theorem Inv.bounds {b : MirroredBuffer} (hi : Inv b) :
    0 < b.size ∧ 2 * b.size ≤ Go.I64MAX ∧ 0 ≤ b.used ∧ b.used ≤ b.size ∧
    0 ≤ b.head ∧ b.head < b.size ∧ 0 ≤ b.tail ∧ b.tail < b.size :=
  ⟨hi.1, hi.2.1, hi.2.2.1, hi.2.2.2.1, hi.2.2.2.2.1, hi.2.2.2.2.2.1, hi.2.2.2.2.2.2.1, hi.2.2.2.2.2.2.2.1⟩

theorem Inv.tail_eq {b : MirroredBuffer} (hi : Inv b) : b.tail = (b.head + b.used) % b.size :=
  hi.2.2.2.2.2.2.2.2

theorem Inv.tail_emod {b : MirroredBuffer} (hi : Inv b) : b.tail % b.size = (b.head + b.used) % b.size := by
  rw [hi.tail_eq, Int.emod_emod]

theorem inv_mk (size : Int) (h0 : 0 < size) (h1 : 2 * size ≤ Go.I64MAX) : Inv (mk size) :=
  ⟨h0, h1, Int.le_refl 0, Int.le_of_lt h0, Int.le_refl 0, h0, Int.le_refl 0, h0, (Int.zero_emod _).symm⟩

theorem FreeSpace_eq {b : MirroredBuffer} (hi : Inv b) : b.FreeSpace = b.size - b.used := by
  obtain ⟨h0, h1, h2, h3, _⟩ := hi
  exact Go.sub_eq (by omega)

theorem claim_facts {b : MirroredBuffer} {n : Int} (hi : Inv b) (hn : 0 ≤ n) :
    let k := imin n (b.size - b.used)
    (b.Claim n).valid = true ∧ (b.Claim n).hi - (b.Claim n).lo = k ∧
    (0 < k → (b.Claim n).lo = b.tail) := by
  intro k
  have hfree := FreeSpace_eq hi
  obtain ⟨h0, h1, h2, h3, h4, h5, h6, h7, h8⟩ := hi
  have hm := Go.mul_eq (a := 2) (b := b.size) (by omega)
  -- both branches of the method return the same slice of the double mapping, of `free` or of `n` bytes
  have key : ∀ (j : Int) (v : Go.View), 0 ≤ j → j ≤ b.size - b.used →
      v = (if j = 0 then Go.View.nil
           else Go.View.slice (Go.View.slice (Go.View.whole (Go.mul 2 b.size)) (some b.tail) none) none (some j)) →
      v.valid = true ∧ v.hi - v.lo = j ∧ (0 < j → v.lo = b.tail) := by
    intro j v hj0 hj1 hv
    by_cases hz : j = 0
    · rw [hv, if_pos hz, hz]
      exact ⟨rfl, rfl, fun h => absurd h (Int.lt_irrefl 0)⟩
    · rw [hv, if_neg hz, hm]
      dsimp only [Go.View.slice, Go.View.whole, Option.getD_some, Option.getD_none]
      refine ⟨?_, by omega, fun _ => by omega⟩
      simp only [Bool.true_and, Bool.and_eq_true, decide_eq_true_eq]
      omega
  unfold MirroredBuffer.Claim
  rw [hfree]
  dsimp only
  by_cases h : n > b.size - b.used
  · rw [if_pos h, show k = b.size - b.used from if_neg (by omega)]
    exact key _ _ (by omega) (Int.le_refl _) rfl
  · rw [if_neg h, show k = n from if_pos (by omega)]
    exact key n _ hn (by omega) rfl

theorem Commit_eq {b : MirroredBuffer} {n : Int} (hi : Inv b) (hn : 0 ≤ n) :
    let k := imin n (b.size - b.used)
    b.Commit n = ({ b with used := b.used + k, tail := (b.tail + k) % b.size }, k) := by
  intro k
  have hfree := FreeSpace_eq hi
  obtain ⟨h0, h1, h2, h3, h4, h5, h6, h7, h8⟩ := hi
  -- both branches of the method make the same two updates, by `free` or by `n`
  have key : ∀ j : Int, 0 ≤ j → j ≤ b.size - b.used →
      (({ b with used := Go.add b.used j, tail := Go.mod (Go.add b.tail j) b.size } : MirroredBuffer), j)
        = ({ b with used := b.used + j, tail := (b.tail + j) % b.size }, j) := by
    intro j hj0 hj1
    rw [Go.add_eq (by omega), Go.add_eq (by omega), Go.mod_eq (by omega)]
  unfold MirroredBuffer.Commit
  rw [hfree]
  dsimp only
  by_cases h : n > b.size - b.used
  · rw [if_pos h, show k = b.size - b.used from if_neg (by omega)]
    exact key _ (by omega) (Int.le_refl _)
  · rw [if_neg h, show k = n from if_pos (by omega)]
    exact key n hn (by omega)

theorem Consume_eq {b : MirroredBuffer} {n : Int} (hi : Inv b) (hn : 0 ≤ n) :
    let k := imin n b.used
    b.Consume n = ({ b with used := b.used - k, head := (b.head + k) % b.size }, k) := by
  intro k
  obtain ⟨h0, h1, h2, h3, h4, h5, h6, h7, h8⟩ := hi
  -- both branches of the method do the same with `used` or with `n`: nothing for 0, else the two updates
  have key : ∀ j : Int, 0 ≤ j → j ≤ b.used →
      (if j = 0 then (b, 0)
       else (({ b with used := Go.sub b.used j, head := Go.mod (Go.add b.head j) b.size } : MirroredBuffer), j))
        = ({ b with used := b.used - j, head := (b.head + j) % b.size }, j) := by
    intro j hj0 hj1
    by_cases hz : j = 0
    · rw [if_pos hz, hz, Int.sub_zero, Int.add_zero, Int.emod_eq_of_lt h4 h5]
    · rw [if_neg hz, Go.sub_eq (by omega), Go.add_eq (by omega), Go.mod_eq (by omega)]
  unfold MirroredBuffer.Consume MirroredBuffer.UsedSpace
  dsimp only
  by_cases h : n > b.used
  · rw [if_pos h, show k = b.used from if_neg (by omega)]
    exact key _ h2 (Int.le_refl _)
  · rw [if_neg h, show k = n from if_pos (by omega)]
    exact key n hn (by omega)

theorem roundSize_facts {page req size : Int} (hp : 0 < page) (hp' : page ≤ Go.I64MAX)
    (hr : Go.InI64 req) (h : roundSize page req = some size) :
    0 < size ∧ size % page = 0 ∧ req ≤ size ∧ size < req + page ∧ size ≤ Go.I64MAX := by
  unfold Go.InI64 at hr
  unfold roundSize at h
  simp only at h
  by_cases hneg : req < 0
  · -- Go's `%` takes the sign of the dividend: a negative request is never rounded, and is rejected
    have h1 : Go.mod req page ≤ 0 := by
      have h2 : 0 ≤ Int.tmod (-req) page := Int.tmod_nonneg page (by omega)
      rw [Int.neg_tmod] at h2
      unfold Go.mod; omega
    rw [if_neg (show ¬ Go.mod req page > 0 by omega), if_pos (show req ≤ 0 by omega)] at h
    exact absurd h (by simp)
  · have hmod : Go.mod req page = req % page := Go.mod_eq (by omega)
    have hlt : req % page < page := Int.emod_lt_of_pos req hp
    have hge : 0 ≤ req % page := Int.emod_nonneg req (by omega)
    rw [hmod] at h
    by_cases hrem : req % page > 0
    · rw [if_pos hrem, Go.sub_eq (by omega)] at h
      -- the addition may leave the int64 range; then the result is negative and rejected
      by_cases hov : req + (page - req % page) ≤ Go.I64MAX
      · rw [Go.add_eq (by omega)] at h
        by_cases hle : req + (page - req % page) ≤ 0
        · rw [if_pos hle] at h; exact absurd h (by simp)
        · rw [if_neg hle] at h
          have hs : size = req + (page - req % page) := (Option.some.inj h).symm
          obtain ⟨g1, g3, g4, g5⟩ : 0 < size ∧ req ≤ size ∧ size < req + page ∧ size ≤ Go.I64MAX := by omega
          refine ⟨g1, ?_, g3, g4, g5⟩
          have hd : req % page + req / page * page = req := Int.emod_add_ediv_mul req page
          have : size = (req / page + 1) * page := by rw [Int.add_mul]; omega
          rw [this, Int.mul_emod_left]
      · have hwrap : Go.add req (page - req % page) ≤ 0 := by
          unfold Go.add Go.wrap64; unfold Go.I64MAX at *; omega
        rw [if_pos hwrap] at h; exact absurd h (by simp)
    · rw [if_neg hrem] at h
      by_cases hle : req ≤ 0
      · rw [if_pos hle] at h; exact absurd h (by simp)
      · rw [if_neg hle] at h
        have hs : size = req := (Option.some.inj h).symm
        rw [hs]
        exact ⟨Int.not_le.mp hle, Int.le_antisymm (Int.not_lt.mp hrem) hge, Int.le_refl _, Int.lt_add_of_pos_right _ hp, hr.2⟩

theorem roundSize_accepts {page req : Int} (hp : 0 < page) (hr : 0 < req)
    (hfit : req + page ≤ Go.I64MAX) : ∃ size, roundSize page req = some size := by
  unfold roundSize
  simp only
  have hmod : Go.mod req page = req % page := Go.mod_eq (by omega)
  have hlt : req % page < page := Int.emod_lt_of_pos req hp
  have hge : 0 ≤ req % page := Int.emod_nonneg req (by omega)
  rw [hmod]
  by_cases hrem : req % page > 0
  · rw [if_pos hrem, Go.sub_eq (by omega), Go.add_eq (by omega), if_neg (by omega)]
    exact ⟨_, rfl⟩
  · rw [if_neg hrem, if_neg (by omega)]
    exact ⟨_, rfl⟩

theorem mappable_facts {size : Int} (h0 : 0 < size) (h1 : size ≤ Go.I64MAX)
    (h : mappable size = true) : 2 * size ≤ Go.I64MAX := by
  unfold mappable Go.mul Go.wrap64 at h
  unfold Go.I64MAX at h1 ⊢
  simp only [decide_eq_true_eq] at h
  omega

end Sonic.Props.C11
