/-
The RFC 6455 parser inverts the reference encoder (`Spec.WsFrame.encode`): for every FIN/RSV/opcode/mask
combination and every payload length class; hence the frame sequence of a concatenation of encodings (`frames_encode`).
-/
import Sonic.Lemmas.WsFrames

namespace Sonic.Spec.WsFrame

theorem length_beBytes (k n : Nat) : (beBytes k n).length = k := by
  induction k with
  | zero => rfl
  | succ k ih => simp [beBytes, ih]

theorem foldl_acc (l : List UInt8) (acc : Nat) :
    l.foldl (fun acc b => acc * 256 + b.toNat) acc = acc * 256 ^ l.length + l.foldl (fun acc b => acc * 256 + b.toNat) 0 := by
  induction l generalizing acc with
  | nil => simp
  | cons b t ih =>
    simp only [List.foldl_cons, List.length_cons]
    rw [ih (acc * 256 + b.toNat), ih (0 * 256 + b.toNat)]
    rw [Nat.add_mul, Nat.pow_succ, Nat.zero_mul, Nat.zero_add, Nat.mul_assoc, Nat.mul_comm 256, Nat.add_assoc]

theorem beNat_cons (b : UInt8) (l : List UInt8) : beNat (b :: l) = b.toNat * 256 ^ l.length + beNat l := by
  unfold beNat
  rw [List.foldl_cons, foldl_acc]; simp

theorem beNat_beBytes (k n : Nat) : beNat (beBytes k n) = n % 256 ^ k := by
  induction k with
  | zero => simp [beBytes, beNat, Nat.mod_one]
  | succ k ih =>
    unfold beBytes
    rw [beNat_cons, length_beBytes, ih, UInt8.toNat_ofNat']
    have h256 : n / 256 ^ k % 256 % 2 ^ 8 = n / 256 ^ k % 256 :=
      Nat.mod_eq_of_lt (by have := Nat.mod_lt (n / 256 ^ k) (by decide : 256 > 0); omega)
    rw [h256, Nat.pow_succ, Nat.mod_mul, Nat.mul_comm, Nat.add_comm]

theorem byteAt_one (b0 b1 : UInt8) (X : List UInt8) : byteAt (b0 :: b1 :: X) 1 = b1.toNat := by simp [byteAt]

theorem declLen_layout (b0 b1 : UInt8) (E X : List UInt8) (hE : E.length = extLen b1.toNat) :
    declLen (b0 :: b1 :: (E ++ X)) = if extLen b1.toNat = 0 then b1.toNat % 128 else beNat E := by
  unfold declLen
  rw [byteAt_one]
  split
  · rfl
  · simp only [List.drop_succ_cons, List.drop_zero]
    rw [← hE, List.take_left']
    rfl

theorem parse_layout (max : Int) (b0 b1 : UInt8) (E mk pay t : List UInt8)
    (hE : E.length = extLen b1.toNat) (hmk : mk.length = maskLen b1.toNat)
    (hlen : (if extLen b1.toNat = 0 then b1.toNat % 128 else beNat E) = pay.length)
    (hmax : (pay.length : Int) ≤ max) :
    parse max (b0 :: b1 :: (E ++ mk ++ pay ++ t)) =
      .frame { fin := b0.toNat ≥ 128, rsv1 := b0.toNat / 64 % 2 = 1, rsv2 := b0.toNat / 32 % 2 = 1, rsv3 := b0.toNat / 16 % 2 = 1,
               opcode := b0.toNat % 16, masked := b1.toNat ≥ 128, mask := mk, payload := pay }
        (2 + E.length + mk.length + pay.length) := by
  have hb0 : byteAt (b0 :: b1 :: (E ++ mk ++ pay ++ t)) 0 = b0.toNat := by simp [byteAt]
  have hb1 := byteAt_one b0 b1 (E ++ mk ++ pay ++ t)
  have hd : declLen (b0 :: b1 :: (E ++ mk ++ pay ++ t)) = pay.length := by
    simp only [List.append_assoc]
    rw [declLen_layout b0 b1 E _ hE, hlen]
  have hh : hdrLen (b0 :: b1 :: (E ++ mk ++ pay ++ t)) = 2 + E.length + mk.length := by
    unfold hdrLen; rw [hb1, hE, hmk]
  have := @parse_frame_of max (b0 :: b1 :: (E ++ mk ++ pay ++ t)) (by rw [hd]; exact hmax)
    (by rw [hd, hh]; simp only [List.length_cons, List.length_append]; omega)
  rw [this, hd, hh]
  congr 1
  unfold frameOf
  simp only [hb0, hb1, hd, hh]
  have d2 : ∀ k, (b0 :: b1 :: (E ++ mk ++ pay ++ t)).drop (2 + k) = (E ++ mk ++ pay ++ t).drop k := by
    intro k; rw [Nat.add_comm]; rfl
  have e1 : ((b0 :: b1 :: (E ++ mk ++ pay ++ t)).drop (2 + extLen b1.toNat)).take (maskLen b1.toNat) = mk := by
    rw [d2, ← hE, ← hmk]
    simp only [List.append_assoc]
    rw [List.drop_left', List.take_left'] <;> rfl
  have e2 : ((b0 :: b1 :: (E ++ mk ++ pay ++ t)).drop (2 + E.length + mk.length)).take pay.length = pay := by
    rw [Nat.add_assoc, d2]
    simp only [List.append_assoc]
    rw [← List.append_assoc, List.drop_left' (by rw [List.length_append]), List.take_left' rfl]
  rw [e1, e2]

theorem b2n_le (b : Bool) : b2n b ≤ 1 := by cases b <;> decide

theorem decide_of_b2n {p : Prop} [Decidable p] {b : Bool} (h : p ↔ b2n b = 1) : decide p = b :=
  (decide_eq_decide.mpr h).trans (by cases b <;> rfl)

theorem pack_fields {a b c d o : Nat} (ha : a ≤ 1) (hb : b ≤ 1) (hc : c ≤ 1) (hd : d ≤ 1) (ho : o < 16) :
    128 * a + 64 * b + 32 * c + 16 * d + o < 256 ∧
    (128 * a + 64 * b + 32 * c + 16 * d + o ≥ 128 ↔ a = 1) ∧
    ((128 * a + 64 * b + 32 * c + 16 * d + o) / 64 % 2 = 1 ↔ b = 1) ∧
    ((128 * a + 64 * b + 32 * c + 16 * d + o) / 32 % 2 = 1 ↔ c = 1) ∧
    ((128 * a + 64 * b + 32 * c + 16 * d + o) / 16 % 2 = 1 ↔ d = 1) ∧
    (128 * a + 64 * b + 32 * c + 16 * d + o) % 16 = o := by
  refine ⟨?_, ?_, ?_, ?_, ?_, ?_⟩ <;> omega

theorem lenBytes_spec (m : Bool) (n : Nat) (hn : n < 2 ^ 64) :
    ∃ b1 E, lenBytes m n = b1 :: E ∧ decide (b1.toNat ≥ 128) = m ∧
      E.length = extLen b1.toNat ∧ (if extLen b1.toNat = 0 then b1.toNat % 128 else beNat E) = n := by
  have hm := b2n_le m
  have toNat_b1 : ∀ k, k < 128 → (UInt8.ofNat (128 * b2n m + k)).toNat = 128 * b2n m + k := fun k hk => by
    rw [UInt8.toNat_ofNat']; exact Nat.mod_eq_of_lt (by omega)
  have masked : ∀ k, k < 128 → decide (128 * b2n m + k ≥ 128) = m := fun k hk => decide_of_b2n (by omega)
  unfold lenBytes
  dsimp only
  by_cases c1 : n ≤ 125
  · have hext : extLen (128 * b2n m + n) = 0 := by unfold extLen; rw [if_neg (by omega), if_neg (by omega)]
    rw [if_pos c1]
    refine ⟨_, _, rfl, ?_, ?_, ?_⟩ <;> rw [toNat_b1 n (by omega)]
    · exact masked n (by omega)
    · rw [hext]; rfl
    · rw [hext, if_pos rfl]; omega
  · rw [if_neg c1]
    by_cases c2 : n ≤ 65535
    · have hext : extLen (128 * b2n m + 126) = 2 := by unfold extLen; rw [if_neg (by omega), if_pos (by omega)]
      rw [if_pos c2]
      refine ⟨_, _, rfl, ?_, ?_, ?_⟩ <;> rw [toNat_b1 126 (by omega)]
      · exact masked 126 (by omega)
      · rw [hext, length_beBytes]
      · rw [hext, if_neg (by omega), beNat_beBytes]; exact Nat.mod_eq_of_lt (by omega)
    · have hext : extLen (128 * b2n m + 127) = 8 := by unfold extLen; rw [if_pos (by omega)]
      rw [if_neg c2]
      refine ⟨_, _, rfl, ?_, ?_, ?_⟩ <;> rw [toNat_b1 127 (by omega)]
      · exact masked 127 (by omega)
      · rw [hext, length_beBytes]
      · rw [hext, if_neg (by omega), beNat_beBytes]; exact Nat.mod_eq_of_lt hn

/-- **The parser inverts the encoder**, whatever follows the frame on the wire. -/
theorem parse_encode (max : Int) (f : Frame) (t : List UInt8) (hwf : f.WF) (hmax : (f.payload.length : Int) ≤ max) :
    parse max (encode f ++ t) = .frame f (encode f).length := by
  obtain ⟨hop, hmask, hlen⟩ := hwf
  obtain ⟨fin, r1, r2, r3, op, m, mask, pay⟩ := f
  dsimp only at hop hmask hlen hmax
  obtain ⟨hlt, hfin, hr1, hr2, hr3, hopc⟩ :=
    @pack_fields (b2n fin) (b2n r1) (b2n r2) (b2n r3) (op % 16) (b2n_le _) (b2n_le _) (b2n_le _) (b2n_le _) (Nat.mod_lt _ (by decide))
  obtain ⟨b1, E, hlb, hm, hE, hdecl⟩ := lenBytes_spec m pay.length (Nat.lt_trans hlen (by decide))
  have hmk : (if m = true then mask else []) = mask ∧ mask.length = maskLen b1.toNat := by
    unfold maskLen
    cases m
    · rw [if_neg (of_decide_eq_false hm)]; exact ⟨hmask.symm, by rw [hmask]; rfl⟩
    · rw [if_pos (of_decide_eq_true hm)]; exact ⟨rfl, hmask⟩
  unfold encode
  dsimp only
  rw [hlb, hmk.1]
  generalize hB : UInt8.ofNat (128 * b2n fin + 64 * b2n r1 + 32 * b2n r2 + 16 * b2n r3 + op % 16) = b0
  have hb0 : b0.toNat = 128 * b2n fin + 64 * b2n r1 + 32 * b2n r2 + 16 * b2n r3 + op % 16 := by
    rw [← hB, UInt8.toNat_ofNat']; exact Nat.mod_eq_of_lt hlt
  have := parse_layout max b0 b1 E mask pay t hE hmk.2 hdecl hmax
  simp only [List.cons_append, List.append_assoc] at this ⊢
  rw [this, hb0, decide_of_b2n hfin, decide_of_b2n hr1, decide_of_b2n hr2, decide_of_b2n hr3, hopc, Nat.mod_eq_of_lt hop, hm]
  simp only [List.length_cons, List.length_append]
  congr 1; omega

theorem frames_encode (max : Int) : ∀ (fs : List Frame), (∀ f ∈ fs, f.WF ∧ (f.payload.length : Int) ≤ max) →
    frames max (fs.flatMap encode) = (fs, .needMore) := by
  intro fs
  induction fs with
  | nil => intro _; exact frames_needMore (by unfold parse; simp)
  | cons f r ih =>
    intro h
    obtain ⟨hwf, hm⟩ := h f (List.mem_cons_self ..)
    have hp := parse_encode max f (r.flatMap encode) hwf hm
    rw [List.flatMap_cons, frames_frame hp, List.drop_left' rfl, ih (fun g hg => h g (List.mem_cons_of_mem _ hg))]

end Sonic.Spec.WsFrame
