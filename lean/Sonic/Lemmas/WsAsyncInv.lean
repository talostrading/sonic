/-
The parts of the invariant of the asynchronous WebSocket model (`Sonic.Model.WsAsync`, serialised flushes) and what the
library code does to them, then the inversion of `step` label by label (`of_step_*`); the invariant itself (`Inv`) and its
preservation are in `WsAsyncStep.lean`.

`owedList s` lists every user callback the library still has to invoke, wherever the obligation currently sits: in the
waiter queue, in the write reactor (the owner of the flush in flight), in the read reactor, or on the control stack.
-/
import Sonic.Model.WsAsync

namespace Sonic.Model.WsAsync

/-- an owed callback: its id and whether it is a read callback -/
abbrev Ow := CbId × Bool

def contCbs : Cont → List Ow
  | .user cb => [(cb, false)]
  | .readStart cb _ => [(cb, true)]
  | .discard => []

def taskCbs : Task → List Ow
  | .invoke cb _ isRead => [(cb, isRead)]
  | .resume cb _ _ => [(cb, true)]
  | .again cb _ => [(cb, true)]
  | _ => []

def wrCbs (s : St) : List Ow := match s.wr with | some w => contCbs w.k | none => []
def rdCbs (s : St) : List Ow := match s.rd with | some (cb, _) => [(cb, true)] | none => []

/-- every callback the library owes an invocation -/
def owedList (s : St) : List Ow :=
  s.waiters.flatMap contCbs ++ wrCbs s ++ rdCbs s ++ s.stack.flatMap taskCbs

/-- frames of the write in flight -/
def wrBuf (s : St) : List OutFrame := match s.wr with | some w => w.buf | none => []
/-- bytes of the write in flight the transport has accepted -/
def wrDone (s : St) : List (Tag × Nat) := match s.wr with | some w => (bufBytes w.buf).take w.sofar | none => []

/-- The serialisation invariant: a write is in flight exactly while `flushing`, waiters exist only then, the write
reactor was never re-initialised while in use, and its buffer is one frame. -/
structure Core (s : St) : Prop where
  flushWr : s.flushing = s.wr.isSome
  idle : s.flushing = false → s.waiters = []
  notOver : s.overwritten = false
  one : ∀ w, s.wr = some w → ∃ f, w.buf = [f]

/-- The wire invariant (while no transport error happened): submitted = on the wire ++ in flight ++ pending, and
the bytes accepted so far are the complete frames followed by a prefix of the frame in flight. -/
structure Wire (s : St) : Prop where
  frames : s.healthy = true → s.wire ++ wrBuf s ++ s.pending = s.submitted
  bytes : s.healthy = true → s.bytes = bufBytes s.wire ++ wrDone s

theorem Wire.complete {s : St} (h : Wire s) (hh : s.healthy = true) (hwr : s.wr = none) (hp : s.pending = []) :
    s.wire = s.submitted ∧ s.bytes = bufBytes s.submitted := by
  have h1 := h.frames hh
  have h2 := h.bytes hh
  simp only [wrBuf, wrDone, hwr, hp, List.append_nil] at h1 h2
  exact ⟨h1, by rw [h2, h1]⟩

/-- Effect of a piece of library code: it keeps `Core` and `Wire`, adds `add` to what is owed, and does not touch the
application-side history. -/
structure Eff (s s' : St) (add : List Ow) : Prop where
  core : Core s'
  wire : Wire s'
  owed : ∀ P : Ow → Bool, (owedList s').countP P = (owedList s).countP P + add.countP P
  started : s'.started = s.started
  log : s'.log = s.log
  readBusy : s'.readBusy = s.readBusy

theorem Eff.refl {s : St} (hc : Core s) (hw : Wire s) : Eff s s [] :=
  ⟨hc, hw, fun _ => by simp, rfl, rfl, rfl⟩

theorem Eff.trans {s s' s'' : St} {a b : List Ow} (h1 : Eff s s' a) (h2 : Eff s' s'' b) : Eff s s'' (a ++ b) :=
  ⟨h2.core, h2.wire, fun P => by rw [h2.owed, h1.owed, List.countP_append]; omega,
   h2.started.trans h1.started, h2.log.trans h1.log, h2.readBusy.trans h1.readBusy⟩

theorem Eff.of_eq {s s' : St} {a b : List Ow} (h : Eff s s' a) (e : a = b) : Eff s s' b := e ▸ h

theorem Eff.ite {s a b : St} {add : List Ow} {c : Prop} [Decidable c] (ha : Eff s a add) (hb : Eff s b add) :
    Eff s (if c then a else b) add := by
  split <;> assumption

theorem contTask_cbs (k : Cont) (ok : Bool) : (contTask k ok).flatMap taskCbs = contCbs k := by
  cases k <;> simp [contTask, taskCbs, contCbs]

theorem waiters_flatMap {β : Type} {f : Task → List β} {g : Cont → List β}
    (h : ∀ k ok, (contTask k ok).flatMap f = g k) (ws : List Cont) (ok : Bool) :
    (ws.flatMap (contTask · ok)).flatMap f = ws.flatMap g := by
  rw [List.flatMap_assoc]
  congr 1
  funext k
  exact h k ok

theorem calls_cbs (as : List Action) : (as.map Task.call).flatMap taskCbs = [] := by
  induction as with
  | nil => rfl
  | cons a r ih => simp [List.flatMap_cons, taskCbs, ih]

theorem bufBytes_length (b : List OutFrame) : (bufBytes b).length = bufSize b := by
  induction b with
  | nil => rfl
  | cons f r ih =>
    simp only [bufBytes, List.flatMap_cons, List.length_append, bufSize, List.map_cons, List.sum_cons] at *
    rw [ih]
    simp [frameBytes]

theorem bufBytes_append (a b : List OutFrame) : bufBytes (a ++ b) = bufBytes a ++ bufBytes b := by
  simp [bufBytes, List.flatMap_append]

theorem startWrite_eq (s : St) (f : OutFrame) (k : Cont) :
    ∃ b ov, startWrite s f k = { s with wr := some { buf := b, sofar := 0, k := k }, overwritten := ov } := by
  unfold startWrite
  split
  · exact ⟨[f], s.overwritten, rfl⟩
  · exact ⟨_, true, rfl⟩

theorem ws_inbox_eff {s : St} (hc : Core s) (hw : Wire s) (ws' : WsState) (ib : List InFrame) :
    Eff s { s with ws := ws', inbox := ib } [] :=
  ⟨{ hc with }, { hw with }, fun _ => by simp [owedList, wrCbs, rdCbs], rfl, rfl, rfl⟩

theorem push_eff {s : St} (hc : Core s) (hw : Wire s) (ts : List Task) : Eff s (push s ts) (ts.flatMap taskCbs) := by
  refine ⟨{ hc with }, { hw with }, fun P => ?_, rfl, rfl, rfl⟩
  simp only [owedList, push, wrCbs, rdCbs, List.flatMap_append, List.countP_append]
  omega

theorem prepare_eff {s : St} (hc : Core s) (hw : Wire s) (f : OutFrame) : Eff s (prepare s f) [] := by
  refine ⟨{ hc with }, ⟨fun h => ?_, hw.bytes⟩, fun P => by simp [owedList, prepare, wrCbs, rdCbs], rfl, rfl, rfl⟩
  have := hw.frames h
  show s.wire ++ wrBuf s ++ (s.pending ++ [f]) = s.submitted ++ [f]
  rw [← this]; simp [List.append_assoc]

theorem flushDone_eff {s : St} (hwr : s.wr = none) (hov : s.overwritten = false) (hw : Wire s) (k : Cont) (ok : Bool) :
    Eff s (flushDone true s k ok) (contCbs k) := by
  have hwb : wrBuf s = [] := by simp [wrBuf, hwr]
  have hwd : wrDone s = [] := by simp [wrDone, hwr]
  refine ⟨⟨?_, fun _ => rfl, hov, ?_⟩, ⟨?_, ?_⟩, fun P => ?_, rfl, rfl, rfl⟩
  · simp [flushDone, push, hwr]
  · intro w h; simp [flushDone, push, hwr] at h
  · intro h; have := hw.frames h; simpa [flushDone, push, wrBuf, hwr, hwb] using this
  · intro h; have := hw.bytes h; simpa [flushDone, push, wrDone, hwr, hwd] using this
  · simp only [owedList, flushDone, push, wrCbs, rdCbs, hwr, if_true, List.flatMap_append, List.countP_append,
      contTask_cbs, waiters_flatMap contTask_cbs, List.flatMap_nil, List.countP_nil]
    omega

theorem asyncFlushGo_eff {s : St} (hwr : s.wr = none) (hfl : s.flushing = true) (hov : s.overwritten = false)
    (hw : Wire s) (k : Cont) : Eff s (asyncFlushGo true s k) (contCbs k) := by
  unfold asyncFlushGo
  split
  · exact flushDone_eff hwr hov hw k true
  · rename_i f rest hp
    have hwb : wrBuf s = [] := by simp [wrBuf, hwr]
    have hwd : wrDone s = [] := by simp [wrDone, hwr]
    refine ⟨⟨?_, ?_, ?_, ?_⟩, ⟨?_, ?_⟩, fun P => ?_, ?_, ?_, ?_⟩
    · simp [startWrite, hwr, hfl]
    · intro h; simp [startWrite, hwr, hfl] at h
    · simp [startWrite, hwr, hov]
    · intro w h; simp [startWrite, hwr] at h; exact ⟨f, by rw [← h]⟩
    · intro h
      have h' : s.healthy = true := by simpa [startWrite, hwr] using h
      have := hw.frames h'
      simp only [startWrite, hwr, wrBuf] at *
      rw [← this, hp]; simp
    · intro h
      have h' : s.healthy = true := by simpa [startWrite, hwr] using h
      have := hw.bytes h'
      simp only [startWrite, hwr, wrDone] at *
      rw [this]; simp
    · simp only [owedList, startWrite, hwr, wrCbs, rdCbs, List.countP_append, List.countP_nil]
      omega
    · simp [startWrite, hwr]
    · simp [startWrite, hwr]
    · simp [startWrite, hwr]

theorem asyncFlush_eff {s : St} (hc : Core s) (hw : Wire s) (k : Cont) : Eff s (asyncFlush true s k) (contCbs k) := by
  unfold asyncFlush
  simp only [if_true]
  split
  · rename_i hfl
    refine ⟨⟨hc.flushWr, ?_, hc.notOver, hc.one⟩, { hw with }, fun P => ?_, rfl, rfl, rfl⟩
    · intro h; exact absurd (hfl ▸ h : true = false) (by decide)
    · simp only [owedList, wrCbs, rdCbs, List.flatMap_append, List.countP_append, List.flatMap_cons, List.flatMap_nil,
        List.append_nil]
      omega
  · rename_i hfl
    have hfl' : s.flushing = false := by simpa using hfl
    have hwr : s.wr = none := by
      have := hc.flushWr; rw [hfl'] at this
      cases hs : s.wr with
      | none => rfl
      | some w => simp [hs] at this
    have h := asyncFlushGo_eff (s := { s with flushing := true }) hwr rfl hc.notOver { hw with } k
    exact ⟨h.core, h.wire, h.owed, h.started, h.log, h.readBusy⟩

theorem asyncClose_eff {s : St} (hc : Core s) (hw : Wire s) (f : OutFrame) (k : Cont)
    (hk : (∃ cb, k = .user cb) ∨ k = .discard) : Eff s (asyncClose true s f k) (contCbs k) := by
  unfold asyncClose
  split
  · have h0 := ws_inbox_eff hc hw .closedByUs s.inbox
    have h1 := prepare_eff h0.core h0.wire f
    have h2 := asyncFlush_eff h1.core h1.wire k
    exact ((h0.trans h1).trans h2).of_eq (by simp)
  · rcases hk with ⟨cb, rfl⟩ | rfl
    · exact (push_eff hc hw _).of_eq (by simp [taskCbs, contCbs])
    · exact Eff.refl hc hw
  · rcases hk with ⟨cb, rfl⟩ | rfl
    · exact (push_eff hc hw _).of_eq (by simp [taskCbs, contCbs])
    · exact Eff.refl hc hw

theorem handleFrame_eff {s : St} (hc : Core s) (hw : Wire s) (f : InFrame) : Eff s (handleFrame s f).1 [] := by
  refine ⟨{ hc with }, ⟨fun h => ?_, hw.bytes⟩, fun P => by simp [owedList, handleFrame, wrCbs, rdCbs], rfl, rfl, rfl⟩
  have := hw.frames h
  show s.wire ++ wrBuf s ++ (s.pending ++ _) = s.submitted ++ _
  rw [← this]; simp [List.append_assoc]

theorem onFrame_message (s : St) (cb : CbId) (room : Nat) (cont : Bool) (f : InFrame) :
    onFrame true s cb (.message room cont) f =
      if (handleFrame s f).2 = true then push (handleFrame s f).1 [.invoke cb .proto true]
      else if f.op.isControl = true then push (handleFrame s f).1 [.ctl, .again cb (.message room cont)]
      else if f.len > room then
        push (asyncClose true (handleFrame s f).1 ⟨.closeTooBig s.rx, 23⟩ .discard) [.invoke cb .tooBig true]
      else if (if cont then f.op != .cont else f.op == .cont) = true then push (handleFrame s f).1 [.invoke cb .proto true]
      else if f.fin = true then push (handleFrame s f).1 [.invoke cb .ok true]
      else push (handleFrame s f).1 [.again cb (.message (room - f.len) true)] := rfl

theorem onFrame_eff {s : St} (hc : Core s) (hw : Wire s) (cb : CbId) (rk : RKind) (f : InFrame) :
    Eff s (onFrame true s cb rk f) [(cb, true)] := by
  have h0 := handleFrame_eff hc hw f
  have sched : ∀ ts : List Task, ts.flatMap taskCbs = [(cb, true)] → Eff s (push (handleFrame s f).1 ts) [(cb, true)] :=
    fun ts hts => (h0.trans (push_eff h0.core h0.wire ts)).of_eq hts
  cases rk with
  | frame => exact sched [.invoke cb _ true] rfl
  | message room cont =>
    rw [onFrame_message]
    have h1 := asyncClose_eff h0.core h0.wire ⟨.closeTooBig s.rx, 23⟩ .discard (Or.inr rfl)
    exact .ite (sched [.invoke cb .proto true] rfl) <| .ite (sched [.ctl, .again cb (.message room cont)] rfl) <|
      .ite (((h0.trans h1).trans (push_eff h1.core h1.wire _)).of_eq rfl) <| .ite (sched [.invoke cb .proto true] rfl) <|
      .ite (sched [.invoke cb .ok true] rfl) (sched [.again cb _] rfl)

theorem setRd_eff {s : St} (hc : Core s) (hw : Wire s) (hrd : s.rd = none) (cb : CbId) (rk : RKind) :
    Eff s { s with rd := some (cb, rk) } [(cb, true)] := by
  refine ⟨{ hc with }, { hw with }, fun P => ?_, rfl, rfl, rfl⟩
  simp only [owedList, wrCbs, rdCbs, hrd, List.countP_append, List.countP_nil]
  omega

theorem readNext_eff {s : St} (hc : Core s) (hw : Wire s) (hrd : s.rd = none) (cb : CbId) (rk : RKind) :
    Eff s (readNext true s cb rk) [(cb, true)] := by
  unfold readNext
  split
  · rename_i f rest hi
    have h0 := ws_inbox_eff hc hw s.ws rest
    exact (h0.trans (onFrame_eff h0.core h0.wire cb rk f)).of_eq (by simp)
  · exact setRd_eff hc hw hrd cb rk

theorem resumeRead_eff {s : St} (hc : Core s) (hw : Wire s) (hrd : s.rd = none) (cb : CbId) (rk : RKind) (ok : Bool) :
    Eff s (resumeRead true s cb rk ok) [(cb, true)] := by
  unfold resumeRead
  split
  · exact readNext_eff hc hw hrd cb rk
  · have h0 := ws_inbox_eff hc hw .terminated s.inbox
    exact (h0.trans (push_eff h0.core h0.wire _)).of_eq (by simp [taskCbs])

def afterWrote (s : St) (w : WSlot) (n : Nat) : St :=
  if w.sofar + n = bufSize w.buf then
    asyncFlushGo true { s with bytes := s.bytes ++ ((bufBytes w.buf).drop w.sofar).take n, wr := none,
                               wire := s.wire ++ w.buf } w.k
  else { s with bytes := s.bytes ++ ((bufBytes w.buf).drop w.sofar).take n, wr := some { w with sofar := w.sofar + n } }

section Inversion
variable {prog : CbId → List Action} {s s' : St}

theorem of_step_call {a : Action} (hs : step true prog s (.call a) = some s') :
    ∃ s0, (s.stack = [] ∧ s0 = s ∨ ∃ rest, s.stack = .call a :: rest ∧ s0 = { s with stack := rest }) ∧
      callOk s0 a = true ∧ s' = beginCall true s0 a := by
  simp only [step] at hs
  split at hs
  · rename_i hst
    split at hs
    · rename_i hok; cases hs; exact ⟨s, Or.inl ⟨hst, rfl⟩, hok, rfl⟩
    · cases hs
  · rename_i a' rest hst
    split at hs
    · rename_i hok; cases hs; obtain ⟨rfl, hok⟩ := hok; exact ⟨_, Or.inr ⟨rest, hst, rfl⟩, hok, rfl⟩
    · cases hs
  · cases hs

theorem of_step_skip {a : Action} (hs : step true prog s (.skip a) = some s') :
    ∃ rest, s.stack = .call a :: rest ∧ s' = { s with stack := rest } := by
  simp only [step] at hs
  split at hs
  · rename_i a' rest hst
    split at hs
    · rename_i hok; cases hs; obtain ⟨rfl, _⟩ := hok; exact ⟨rest, hst, rfl⟩
    · cases hs
  · cases hs

theorem of_step_ret (hs : step true prog s .ret = some s') :
    ∃ t rest, (t = .ret ∨ t = .pollRet) ∧ s.stack = t :: rest ∧ s' = { s with stack := rest } := by
  simp only [step] at hs
  split at hs
  · rename_i rest hst; cases hs; exact ⟨_, rest, Or.inl rfl, hst, rfl⟩
  · rename_i rest hst; cases hs; exact ⟨_, rest, Or.inr rfl, hst, rfl⟩
  · cases hs

theorem of_step_enter {cb : CbId} {r : Res} (hs : step true prog s (.enter cb r) = some s') :
    ∃ isRead rest, s.stack = .invoke cb r isRead :: rest ∧
      s' = { s with stack := (prog cb).map .call ++ .exit cb :: rest, log := s.log ++ [cb],
                    readBusy := if isRead then false else s.readBusy } := by
  simp only [step] at hs
  split at hs
  · rename_i cb' r' isRead rest hst
    split at hs
    · rename_i hcr; cases hs; obtain ⟨rfl, rfl⟩ := hcr; exact ⟨isRead, rest, hst, rfl⟩
    · cases hs
  · cases hs

theorem of_step_exit {cb : CbId} (hs : step true prog s (.exit cb) = some s') :
    ∃ rest, s.stack = .exit cb :: rest ∧ s' = { s with stack := rest } := by
  simp only [step] at hs
  split at hs
  · rename_i cb' rest hst
    split at hs
    · rename_i hcb; cases hs; subst hcb; exact ⟨rest, hst, rfl⟩
    · cases hs
  · cases hs

theorem of_step_ctl (hs : step true prog s .ctl = some s') :
    ∃ rest, s.stack = .ctl :: rest ∧ s' = { s with stack := rest } := by
  simp only [step] at hs
  split at hs
  · rename_i rest hst; cases hs; exact ⟨rest, hst, rfl⟩
  · cases hs

theorem of_step_tau (hs : step true prog s .tau = some s') :
    (∃ cb rk ok rest, s.stack = .resume cb rk ok :: rest ∧ s' = resumeRead true { s with stack := rest } cb rk ok) ∨
    (∃ cb rk rest, s.stack = .again cb rk :: rest ∧ s' = asyncFlush true { s with stack := rest } (.readStart cb rk)) := by
  simp only [step] at hs
  split at hs
  · rename_i cb rk ok rest hst; cases hs; exact Or.inl ⟨cb, rk, ok, rest, hst, rfl⟩
  · rename_i cb rk rest hst; cases hs; exact Or.inr ⟨cb, rk, rest, hst, rfl⟩
  · cases hs

theorem of_step_wrote {n : Nat} (hs : step true prog s (.wrote n) = some s') :
    ∃ rest w, s.stack = .pollRet :: rest ∧ s.wr = some w ∧ w.sofar + n ≤ bufSize w.buf ∧ s' = afterWrote s w n := by
  simp only [step] at hs
  split at hs
  · rename_i rest w hst hwr
    split at hs
    · rename_i hle
      refine ⟨rest, w, hst, hwr, hle, ?_⟩
      unfold afterWrote
      split at hs
      · rename_i heq; cases hs; rw [if_pos heq]
      · rename_i hne; cases hs; rw [if_neg hne]
    · cases hs
  · cases hs

theorem of_step_wrErr (hs : step true prog s .wrErr = some s') :
    ∃ rest w, s.stack = .pollRet :: rest ∧ s.wr = some w ∧
      s' = flushDone true { s with wr := none, healthy := false } w.k false := by
  simp only [step] at hs
  split at hs
  · rename_i rest w hst hwr; cases hs; exact ⟨rest, w, hst, hwr, rfl⟩
  · cases hs

theorem of_step_rdGot {fs : List InFrame} (hs : step true prog s (.rdGot fs) = some s') :
    ∃ rest cb rk, s.stack = .pollRet :: rest ∧ s.rd = some (cb, rk) ∧ s.inbox = [] ∧
      (fs = [] ∧ s' = s ∨ ∃ f more, fs = f :: more ∧ s' = onFrame true { s with rd := none, inbox := more } cb rk f) := by
  simp only [step] at hs
  split at hs
  · rename_i rest cb rk hst hrd
    split at hs
    · rename_i hemp
      refine ⟨rest, cb, rk, hst, hrd, List.isEmpty_iff.1 hemp, ?_⟩
      split at hs
      · cases hs; exact Or.inl ⟨rfl, rfl⟩
      · rename_i f more; cases hs; exact Or.inr ⟨f, more, rfl, rfl⟩
    · cases hs
  · cases hs

theorem of_step_rdEof (hs : step true prog s .rdEof = some s') :
    ∃ rest cb rk, s.stack = .pollRet :: rest ∧ s.rd = some (cb, rk) ∧
      s' = push { s with rd := none, ws := .terminated } [.invoke cb .eof true] := by
  simp only [step] at hs
  split at hs
  · rename_i rest cb rk hst hrd; cases hs; exact ⟨rest, cb, rk, hst, hrd, rfl⟩
  · cases hs

theorem of_step_rdErr (hs : step true prog s .rdErr = some s') :
    ∃ rest cb rk, s.stack = .pollRet :: rest ∧ s.rd = some (cb, rk) ∧
      s' = push { s with rd := none, healthy := false } [.invoke cb .err true] := by
  simp only [step] at hs
  split at hs
  · rename_i rest cb rk hst hrd; cases hs; exact ⟨rest, cb, rk, hst, hrd, rfl⟩
  · cases hs

end Inversion

end Sonic.Model.WsAsync
