/-
The transition relation of the loop model, written out as rules: `AfterRule`, `CancelRule`, `PollRule` for the helpers
`applyAfter`, `cancelStep`, `pollDispatch`; the tables `Drops` of the (top frame, event) pairs whose transition only drops
the frame and `Pushes` of the (event, frame) pairs whose transition only pushes a library frame; `Step` for `step` itself.
The `*_sound` theorems tie each relation to the executable definition; everything proved over all transitions is a case
analysis on `step_sound`.
-/
import Sonic.Model.Loop

namespace Sonic.Model.Loop
open Sonic.Spec.Loop

inductive AfterRule (w : World) (op : Nat) : After → World → Prop
  | none : AfterRule w op .none w
  | decDisp : AfterRule w op .decDisp { w with dispatched := w.dispatched - 1 }
  | postDone : AfterRule w op .postDone { w with pending := w.pending - 1 }
  | timerGone {k rep cb} (hobj : getObj w k = none) : AfterRule w op (.timerDone k rep cb) w
  | timerOnce {k rep cb o} (hobj : getObj w k = some o) (honce : rep = false ∨ o.kind ≠ .timer) :
      AfterRule w op (.timerDone k rep cb) w
  | timerStop {k cb o} (hobj : getObj w k = some o) (hkind : o.kind = .timer)
      (hcancel : o.cancelled = true ∨ o.cancels ≠ cb) :
      AfterRule w op (.timerDone k true cb) (setObj w { o with cancelled := false })
  | timerRearm {k cb o} (hobj : getObj w k = some o) (hkind : o.kind = .timer) (hlive : o.cancelled = false)
      (hcount : o.cancels = cb) (hready : o.tstate = .ready) :
      AfterRule w op (.timerDone k true cb) (armTimer w o op true)
  | timerBusy {k cb o} (hobj : getObj w k = some o) (hkind : o.kind = .timer) (hlive : o.cancelled = false)
      (hcount : o.cancels = cb) (hbusy : o.tstate ≠ .ready) :
      AfterRule w op (.timerDone k true cb) w

inductive CancelRule (w : World) (k : Nat) (phase : Phase) (rest : List K) : Ev → World → Prop
  | read {o op res n data early} (hobj : getObj w k = some o) (hcan : hasCancel o.kind = true) (hset : o.evR = true)
      (hphase : phase = .reads) (hhandler : op = o.hR) (hres : res = .cancelled ∨ res = .err) :
      CancelRule w k phase rest (.enter op res n data early)
        { (delRead w o) with stack := .user op .none :: .cancelCall k .writes :: rest }
  | write {o op res n data early} (hobj : getObj w k = some o) (hcan : hasCancel o.kind = true)
      (hnoread : ¬(o.evR = true ∧ phase = .reads)) (hset : o.evW = true) (hphase : phase ≠ .done)
      (hhandler : op = o.hW) (hres : res = .cancelled ∨ res = .err) :
      CancelRule w k phase rest (.enter op res n data early)
        { (delWrite w o) with stack := .user op .none :: .cancelCall k .done :: rest }
  | done {o r} (hobj : getObj w k = some o)
      (hnoread : ¬(hasCancel o.kind = true ∧ o.evR = true ∧ phase = .reads))
      (hnowrite : ¬(hasCancel o.kind = true ∧ o.evW = true ∧ phase ≠ .done)) :
      CancelRule w k phase rest (.ret r) { w with stack := rest }

inductive PollRule (w : World) (op : Nat) (rest : List K) : World → Prop
  | post {info ps} (hop : getOp w op = some info) (hkind : info.kind = .post) (hqueue : w.posts = op :: ps) :
      PollRule w op rest { w with posts := ps, stack := .user op .postDone :: .pollCall true :: rest }
  | timer {info o} (hop : getOp w op = some info) (hkind : info.kind.isTimer = true)
      (hobj : getObj w info.obj = some o) (hokind : o.kind = .timer) (hset : o.evR = true) (hhandler : o.hR = op) :
      PollRule w op rest
        { (setObj { w with pending := w.pending - 1 } { o with evR := false, tstate := .ready }) with
          stack := .user op (.timerDone o.id (info.kind == .timerRep) o.cancels) :: .pollCall true :: rest }
  | read {info o} (hop : getOp w op = some info) (hnopost : info.kind ≠ .post) (hnotimer : info.kind.isTimer = false)
      (hobj : getObj w info.obj = some o) (hokind : o.kind ≠ .timer) (hdir : info.kind.isRead = true)
      (hset : o.evR = true) (hhandler : o.hR = op) :
      PollRule w op rest { (delRead w o) with stack := .user op .none :: .pollCall true :: rest }
  | write {info o} (hop : getOp w op = some info) (hnopost : info.kind ≠ .post) (hnotimer : info.kind.isTimer = false)
      (hobj : getObj w info.obj = some o) (hokind : o.kind ≠ .timer) (hdir : info.kind.isRead = false)
      (hset : o.evW = true) (hhandler : o.hW = op) :
      PollRule w op rest { (delWrite w o) with stack := .user op .none :: .pollCall true :: rest }

inductive Drops (w : World) : K → Ev → Prop
  | startDone {op k kind r} : Drops w (.startCall op k kind true) (.ret r)
  | closeAgain {k o} (hobj : getObj w k = some o) (hkind : o.kind ≠ .timer) (hclosed : o.closed = true) :
      Drops w (.closeCall k) (.ret (.err false))
  | closeTimerAgain {k o} (hobj : getObj w k = some o) (hkind : o.kind = .timer) (hclosed : o.tstate = .closed) :
      Drops w (.closeCall k) (.ret (.err true))
  | schedDone {op k rep ticks o} (hobj : getObj w k = some o) : Drops w (.schedCall op k rep ticks true) (.ret (.err true))
  | schedRefused {op k rep ticks o} (hobj : getObj w k = some o)
      (hwhy : (rep = true ∧ ticks ≤ 0) ∨ o.tstate ≠ .ready) :
      Drops w (.schedCall op k rep ticks false) (.ret (.err false))
  | tcancelClosed {k o} (hobj : getObj w k = some o) (hkind : o.kind = .timer) (hclosed : o.tstate = .closed) :
      Drops w (.tcancelCall k) (.ret (.err true))
  | scheduled {k o b} (hobj : getObj w k = some o) (hb : b = (o.tstate == .scheduled)) :
      Drops w (.scheduledCall k) (.ret (.bool b))
  | polled {any n res} (hn : n ≠ 0) : Drops w (.pollCall any) (.ret (.poll n res))
  | pollTimeout {any n} (hquiet : any = true → n < 0) : Drops w (.pollCall any) (.ret (.pollTimeout n))
  | pending {p q d} (hp : p = w.pending) (hq : q = (w.posts.length : Int)) (hd : d = w.dispatched) :
      Drops w .pendingCall (.ret (.pending p q d))
  | other {r} : Drops w .otherCall (.ret r)
  | finished {s} : Drops w .finishCall (.ret (.stuck s))

inductive Pushes : Ev → K → Prop
  | cancel {k} : Pushes (.callCancel k) (.cancelCall k .reads)
  | close {k} : Pushes (.callClose k) (.closeCall k)
  | tcancel {k} : Pushes (.callTCancel k) (.tcancelCall k)
  | scheduled {k} : Pushes (.callScheduled k) (.scheduledCall k)
  | poll : Pushes .callPoll (.pollCall false)
  | pending : Pushes .callPending .pendingCall
  | peerWrite {k n} : Pushes (.callPeerWrite k n) .otherCall
  | peerDrain {k} : Pushes (.callPeerDrain k) .otherCall
  | peerOther : Pushes .callPeerOther .otherCall
  | finish : Pushes .callFinish .finishCall

/-- The transition relation of the loop model as rules: `Step w e w'` holds for every `step w e = some w'`
(`step_sound`).  Each rule names the top frame (`hstk`, or `inUser` for a call from user code), the event, and the
guards under which `Model.Loop.step` takes it; `cancel`, `poll` and `exit` defer to the rules of `cancelStep`,
`pollDispatch` and `applyAfter`; `pop` and `push` collect the transitions that only drop or push a frame. -/
inductive Step (w : World) : Ev → World → Prop
  | newObj {k kind} (hstk : w.stack = []) (hfresh : getObj w k = none) :
      Step w (.obj k kind) { w with objs := { id := k, kind := kind } :: w.objs }
  | exit {op a rest w'} (hstk : w.stack = .user op a :: rest) (hrule : AfterRule { w with stack := rest } op a w') :
      Step w (.exit op) w'
  | cancel {k phase rest e w'} (hstk : w.stack = .cancelCall k phase :: rest) (hrule : CancelRule w k phase rest e w') :
      Step w e w'
  | inline {op k kind rest res n data early o} (hstk : w.stack = .startCall op k kind false :: rest)
      (hobj : getObj w k = some o) (hinline : hasInline o.kind = true) (hbelow : w.dispatched < (maxDispatch : Int)) :
      Step w (.enter op res n data early)
        { w with dispatched := w.dispatched + 1, stack := .user op .decDisp :: .startCall op k kind true :: rest }
  | startFail {op k kind rest res n data early o} (hstk : w.stack = .startCall op k kind false :: rest)
      (hobj : getObj w k = some o) (hdeferred : ¬(hasInline o.kind = true ∧ w.dispatched < (maxDispatch : Int)))
      (hres : (o.closed = true ∧ res = .eof) ∨ res = .err) :
      Step w (.enter op res n data early) { w with stack := .user op .none :: .startCall op k kind true :: rest }
  | deferRead {op k kind rest r o} (hstk : w.stack = .startCall op k kind false :: rest) (hobj : getObj w k = some o)
      (hopen : o.closed = false) (hkind : o.kind ≠ .timer) (hdir : kind.isRead = true) :
      Step w (.ret r) { (setRead w o op) with stack := rest }
  | deferWrite {op k kind rest r o} (hstk : w.stack = .startCall op k kind false :: rest) (hobj : getObj w k = some o)
      (hopen : o.closed = false) (hkind : o.kind ≠ .timer) (hdir : kind.isRead = false) :
      Step w (.ret r) { (setWrite w o op) with stack := rest }
  | close {k rest o} (hstk : w.stack = .closeCall k :: rest) (hobj : getObj w k = some o)
      (hopen : o.kind ≠ .timer → o.closed = false) (htopen : o.kind = .timer → o.tstate ≠ .closed) :
      Step w (.ret (.err true)) { (closeObj w o) with stack := rest }
  | schedNow {op k rep ticks rest res n data early o} (hstk : w.stack = .schedCall op k rep ticks false :: rest)
      (hobj : getObj w k = some o) (honce : rep = false) (hzero : ticks ≤ 0) (hready : o.tstate = .ready)
      (hkind : o.kind = .timer) :
      Step w (.enter op res n data early)
        { (setObj w { o with cancelled := false }) with stack := .user op .none :: .schedCall op k rep ticks true :: rest }
  | arm {op k rep ticks rest o} (hstk : w.stack = .schedCall op k rep ticks false :: rest) (hobj : getObj w k = some o)
      (hpos : 0 < ticks) (hready : o.tstate = .ready) (hkind : o.kind = .timer) :
      Step w (.ret (.err true)) { (armTimer w o op rep) with stack := rest }
  | tcancel {k rest o} (hstk : w.stack = .tcancelCall k :: rest) (hobj : getObj w k = some o) (hkind : o.kind = .timer)
      (hopen : o.tstate ≠ .closed) :
      Step w (.ret (.err true))
        { (setObj (unsetPending w o) { o with evR := false, cancelled := true, cancels := o.cancels + 1, tstate := .ready }) with
          stack := rest }
  | posted {op rest} (hstk : w.stack = .postCall op :: rest) :
      Step w (.ret (.err true)) { w with posts := w.posts ++ [op], pending := w.pending + 1, stack := rest }
  | poll {any rest op res n data early w'} (hstk : w.stack = .pollCall any :: rest) (hrule : PollRule w op rest w') :
      Step w (.enter op res n data early) w'
  | pop {k rest e} (hstk : w.stack = k :: rest) (hdrop : Drops w k e) : Step w e { w with stack := rest }
  | push {e k} (huser : inUser w = true) (hcall : Pushes e k) : Step w e (push w k)
  | callStart {op k kind len o} (huser : inUser w = true) (hobj : getObj w k = some o) (hfresh : getOp w op = none)
      (hkind : o.kind ≠ .timer) (hio : kind.isIO = true) :
      Step w (.callStart op k kind len)
        { w with ops := { id := op, obj := k, kind := kind } :: w.ops, stack := .startCall op k kind false :: w.stack }
  | callSched {op k rep ticks o} (huser : inUser w = true) (hobj : getObj w k = some o) (hfresh : getOp w op = none)
      (hkind : o.kind = .timer) :
      Step w (.callSched op k rep ticks)
        { w with ops := { id := op, obj := k, kind := if rep then .timerRep else .timerOnce } :: w.ops,
                 stack := .schedCall op k rep ticks false :: w.stack }
  | callPost {op} (huser : inUser w = true) (hfresh : getOp w op = none) :
      Step w (.callPost op)
        { w with ops := { id := op, obj := 0, kind := .post } :: w.ops, stack := .postCall op :: w.stack }
  | setDisp {n} (huser : inUser w = true) :
      Step w (.callSetDisp n) { w with dispatched := n, stack := .otherCall :: w.stack }

theorem Drops.lib {w : World} {k : K} {e : Ev} (h : Drops w k e) (op : Nat) (a : After) : k ≠ .user op a := by
  cases h <;> exact K.noConfusion

theorem Pushes.lib {e : Ev} {k : K} (h : Pushes e k) (op : Nat) (a : After) : k ≠ .user op a := by
  cases h <;> exact K.noConfusion

theorem of_ite_none {α : Type} {c : Prop} [Decidable c] {a : Option α} {r : α} (h : (if c then none else a) = some r) :
    ¬c ∧ a = some r := by
  by_cases hc : c
  · rw [if_pos hc] at h; cases h
  · rw [if_neg hc] at h; exact ⟨hc, h⟩

theorem of_ite_else_none {α : Type} {c : Prop} [Decidable c] {a : Option α} {r : α} (h : (if c then a else none) = some r) :
    c ∧ a = some r := by
  by_cases hc : c
  · rw [if_pos hc] at h; exact ⟨hc, h⟩
  · rw [if_neg hc] at h; cases h

theorem applyAfter_sound (w : World) (op : Nat) (a : After) : AfterRule w op a (applyAfter w op a) := by
  cases a with
  | none => exact .none
  | decDisp => exact .decDisp
  | postDone => exact .postDone
  | timerDone k rep cb =>
    simp only [applyAfter]
    cases hobj : getObj w k with
    | none => exact .timerGone hobj
    | some o =>
      simp only
      split
      · rename_i h
        exact .timerOnce hobj (by simpa using h)
      · rename_i h
        have hk : rep = true ∧ o.kind = .timer := by simpa using h
        obtain ⟨rfl, hkind⟩ := hk
        split
        · rename_i hc
          exact .timerStop hobj hkind (by simpa using hc)
        · rename_i hc
          have hc' : o.cancelled = false ∧ o.cancels = cb := by simpa using hc
          split
          · rename_i hr
            exact .timerRearm hobj hkind hc'.1 hc'.2 (by simpa using hr)
          · rename_i hr
            exact .timerBusy hobj hkind hc'.1 hc'.2 (by simpa using hr)

theorem cancelStep_sound {w w' : World} {k : Nat} {phase : Phase} {rest : List K} {e : Ev}
    (h : cancelStep w k phase rest e = some w') : CancelRule w k phase rest e w' := by
  unfold cancelStep at h
  cases hobj : getObj w k with
  | none => rw [hobj] at h; cases h
  | some o =>
    rw [hobj] at h
    dsimp only at h
    cases e with
    | enter op res n data early =>
      dsimp only at h
      by_cases hR : (hasCancel o.kind && o.evR && phase == .reads) = true
      · rw [if_pos hR] at h
        obtain ⟨hc, h⟩ := of_ite_else_none h
        cases h
        simp only [Bool.and_eq_true, Bool.or_eq_true, beq_iff_eq] at hR hc
        exact .read hobj hR.1.1 hR.1.2 hR.2 hc.1 hc.2
      · rw [if_neg hR] at h
        obtain ⟨hW, h⟩ := of_ite_else_none h
        obtain ⟨hc, h⟩ := of_ite_else_none h
        cases h
        simp only [Bool.and_eq_true, Bool.or_eq_true, beq_iff_eq, bne_iff_ne, ne_eq] at hR hW hc
        exact .write hobj hW.1.1 (fun hh => hR ⟨⟨hW.1.1, hh.1⟩, hh.2⟩) hW.1.2 hW.2 hc.1 hc.2
    | ret r =>
      dsimp only at h
      obtain ⟨hc, h⟩ := of_ite_none h
      cases h
      simp only [Bool.or_eq_true, Bool.and_eq_true, beq_iff_eq, bne_iff_ne, ne_eq, not_or] at hc
      exact .done hobj (fun hh => hc.1 ⟨⟨hh.1, hh.2.1⟩, hh.2.2⟩) (fun hh => hc.2 ⟨⟨hh.1, hh.2.1⟩, hh.2.2⟩)
    | _ => cases h

theorem pollDispatch_sound {w w' : World} {op : Nat} {rest : List K}
    (h : pollDispatch w op rest = some w') : PollRule w op rest w' := by
  unfold pollDispatch at h
  cases hop : getOp w op with
  | none => rw [hop] at h; cases h
  | some info =>
    rw [hop] at h
    dsimp only at h
    by_cases hpost : (info.kind == OpKind.post) = true
    · rw [if_pos hpost] at h
      cases hq : w.posts with
      | nil => rw [hq] at h; cases h
      | cons p ps =>
        rw [hq] at h
        dsimp only at h
        obtain ⟨hp, h⟩ := of_ite_else_none h
        cases h
        have hp' : p = op := by simpa using hp
        exact .post hop (by simpa using hpost) (by rw [hq, hp'])
    · rw [if_neg hpost] at h
      have hnopost : info.kind ≠ .post := by simpa using hpost
      cases hobj : getObj w info.obj with
      | none => rw [hobj] at h; cases h
      | some o =>
        rw [hobj] at h
        dsimp only at h
        by_cases htimer : info.kind.isTimer = true
        · rw [if_pos htimer] at h
          obtain ⟨hc, h⟩ := of_ite_else_none h
          cases h
          simp only [Bool.and_eq_true, beq_iff_eq] at hc
          exact .timer hop htimer hobj hc.1.1 hc.1.2 hc.2
        · rw [if_neg htimer] at h
          have hnotimer : info.kind.isTimer = false := by simpa using htimer
          replace h := of_ite_none h
          obtain ⟨hokind, h⟩ := h
          have hokind' : o.kind ≠ .timer := by simpa using hokind
          by_cases hdir : info.kind.isRead = true
          · rw [if_pos hdir] at h
            obtain ⟨hc, h⟩ := of_ite_else_none h
            cases h
            simp only [Bool.and_eq_true, beq_iff_eq] at hc
            exact .read hop hnopost hnotimer hobj hokind' hdir hc.1 hc.2
          · rw [if_neg hdir] at h
            obtain ⟨hc, h⟩ := of_ite_else_none h
            cases h
            simp only [Bool.and_eq_true, beq_iff_eq] at hc
            exact .write hop hnopost hnotimer hobj hokind' (by simpa using hdir) hc.1 hc.2

theorem step_sound {w w' : World} {e : Ev} (h : step w e = some w') : Step w e w' := by
  unfold step at h
  split at h
  · -- object creation
    rename_i k kind hstk
    obtain ⟨hfresh, h⟩ := of_ite_none h
    cases h
    exact .newObj hstk (by simpa using hfresh)
  · -- a handler returns
    rename_i op a rest op' hstk
    obtain ⟨hop, h⟩ := of_ite_else_none h
    cases h
    obtain rfl : op = op' := by simpa using hop
    exact .exit hstk (applyAfter_sound _ op a)
  · -- inside Cancel
    rename_i k phase rest hstk
    exact .cancel hstk (cancelStep_sound h)
  · -- a callback inside a start call
    rename_i op k kind rest op' res n data early hstk
    replace h := of_ite_none h
    obtain ⟨hop, h⟩ := h
    obtain rfl : op = op' := by simpa using hop
    cases hobj : getObj w k with
    | none => rw [hobj] at h; cases h
    | some o =>
      rw [hobj] at h
      dsimp only at h
      by_cases hin : (hasInline o.kind && decide (w.dispatched < (maxDispatch : Int))) = true
      · rw [if_pos hin] at h; cases h
        simp only [Bool.and_eq_true, decide_eq_true_eq] at hin
        exact .inline hstk hobj hin.1 hin.2
      · rw [if_neg hin] at h
        obtain ⟨hres, h⟩ := of_ite_else_none h
        cases h
        simp only [Bool.and_eq_true, decide_eq_true_eq, Bool.or_eq_true, beq_iff_eq] at hin hres
        exact .startFail hstk hobj hin hres
  · -- a start call returns
    rename_i op k kind completed rest r hstk
    cases completed with
    | true => rw [if_pos rfl] at h; cases h; exact .pop hstk .startDone
    | false =>
      rw [if_neg (by decide)] at h
      cases hobj : getObj w k with
      | none => rw [hobj] at h; cases h
      | some o =>
        rw [hobj] at h
        dsimp only at h
        replace h := of_ite_none h
        obtain ⟨hbad, h⟩ := h
        simp only [Bool.or_eq_true, beq_iff_eq, not_or, Bool.not_eq_true] at hbad
        by_cases hdir : kind.isRead = true
        · rw [if_pos hdir] at h; cases h
          exact .deferRead hstk hobj hbad.1 hbad.2 hdir
        · rw [if_neg hdir] at h; cases h
          exact .deferWrite hstk hobj hbad.1 hbad.2 (by simpa using hdir)
  · -- Close returns
    rename_i k rest isNil hstk
    cases hobj : getObj w k with
    | none => rw [hobj] at h; cases h
    | some o =>
      rw [hobj] at h
      dsimp only at h
      by_cases hagain : (if o.kind == ObjKind.timer then false else o.closed) = true
      · rw [if_pos hagain] at h
        have hagain' : o.kind ≠ .timer ∧ o.closed = true := by simpa using hagain
        obtain ⟨hnil, h⟩ := of_ite_none h
        cases h
        obtain rfl : isNil = false := by simpa using hnil
        exact .pop hstk (.closeAgain hobj hagain'.1 hagain'.2)
      · rw [if_neg hagain] at h
        replace h := of_ite_none h
        obtain ⟨hnil, h⟩ := h
        obtain rfl : isNil = true := by simpa using hnil
        by_cases hclosed : (o.kind == ObjKind.timer && o.tstate == .closed) = true
        · rw [if_pos hclosed] at h; cases h
          simp only [Bool.and_eq_true, beq_iff_eq] at hclosed
          exact .pop hstk (.closeTimerAgain hobj hclosed.1 hclosed.2)
        · rw [if_neg hclosed] at h; cases h
          exact .close hstk hobj (fun hk => by simpa [hk] using hagain) (fun hk => by simpa [hk] using hclosed)
  · -- a zero-delay ScheduleOnce runs the callback inside the call
    rename_i op k rep ticks rest op' res n data early hstk
    cases hobj : getObj w k with
    | none => rw [hobj] at h; cases h
    | some o =>
      rw [hobj] at h
      dsimp only at h
      obtain ⟨hc, h⟩ := of_ite_else_none h
      cases h
      simp only [Bool.and_eq_true, beq_iff_eq, Bool.not_eq_true', decide_eq_true_eq] at hc
      obtain ⟨⟨⟨⟨rfl, honce⟩, hzero⟩, hready⟩, hkind⟩ := hc
      exact .schedNow hstk hobj honce hzero hready hkind
  · -- Schedule* returns
    rename_i op k rep ticks completed rest isNil hstk
    cases hobj : getObj w k with
    | none => rw [hobj] at h; cases h
    | some o =>
      rw [hobj] at h
      dsimp only at h
      cases completed with
      | true =>
        rw [if_pos rfl] at h
        obtain ⟨hnil, h⟩ := of_ite_else_none h
        cases h
        subst hnil
        exact .pop hstk (.schedDone hobj)
      | false =>
        rw [if_neg (by decide)] at h
        by_cases hwhy : ((rep && decide (ticks ≤ 0)) || o.tstate != .ready) = true
        · rw [if_pos hwhy] at h
          obtain ⟨hnil, h⟩ := of_ite_none h
          cases h
          obtain rfl : isNil = false := by simpa using hnil
          exact .pop hstk (.schedRefused hobj (by simpa using hwhy))
        · rw [if_neg hwhy] at h
          simp only [Bool.or_eq_true, Bool.and_eq_true, decide_eq_true_eq, bne_iff_ne, ne_eq, not_or, Decidable.not_not] at hwhy
          obtain ⟨hpos, h⟩ := of_ite_none h
          obtain ⟨hc, h⟩ := of_ite_else_none h
          cases h
          simp only [Bool.and_eq_true, beq_iff_eq] at hc
          obtain ⟨rfl, hkind⟩ := hc
          exact .arm hstk hobj (by omega) hwhy.2 hkind
  · -- Timer.Cancel returns
    rename_i k rest isNil hstk
    cases hobj : getObj w k with
    | none => rw [hobj] at h; cases h
    | some o =>
      rw [hobj] at h
      dsimp only at h
      replace h := of_ite_none h
      obtain ⟨hbad, h⟩ := h
      simp only [Bool.or_eq_true, Bool.not_eq_true', bne_iff_ne, ne_eq, not_or, Bool.not_eq_false, Decidable.not_not] at hbad
      obtain ⟨rfl, hkind⟩ := hbad
      by_cases hclosed : (o.tstate == .closed) = true
      · rw [if_pos hclosed] at h; cases h
        exact .pop hstk (.tcancelClosed hobj hkind (by simpa using hclosed))
      · rw [if_neg hclosed] at h; cases h
        exact .tcancel hstk hobj hkind (by simpa using hclosed)
  · -- Scheduled() returns
    rename_i k rest b hstk
    cases hobj : getObj w k with
    | none => rw [hobj] at h; cases h
    | some o =>
      rw [hobj] at h
      dsimp only at h
      obtain ⟨hb, h⟩ := of_ite_else_none h
      cases h
      exact .pop hstk (.scheduled hobj (by simpa using hb))
  · -- Post returns
    rename_i op rest isNil hstk
    obtain ⟨hnil, h⟩ := of_ite_else_none h
    cases h
    subst hnil
    exact .posted hstk
  · -- the poller dispatches a handler
    rename_i any rest op res n data early hstk
    exact .poll hstk (pollDispatch_sound h)
  · -- a poll returns a count
    rename_i any rest n res hstk
    obtain ⟨hn, h⟩ := of_ite_none h
    cases h
    exact .pop hstk (.polled (by simpa using hn))
  · -- a poll times out
    rename_i any rest n hstk
    obtain ⟨hc, h⟩ := of_ite_none h
    cases h
    refine .pop hstk (.pollTimeout fun hany => ?_)
    simp only [hany, Bool.true_and, decide_eq_true_eq] at hc
    omega
  · -- Pending() returns
    rename_i rest p q d hstk
    obtain ⟨hc, h⟩ := of_ite_else_none h
    cases h
    simp only [Bool.and_eq_true, beq_iff_eq] at hc
    exact .pop hstk (.pending hc.1.1 hc.1.2 hc.2)
  · -- any other call returns
    rename_i rest r hstk
    cases h
    exact .pop hstk .other
  · -- calls from user code
    replace h := of_ite_none h
    obtain ⟨hu, h⟩ := h
    have huser : inUser w = true := by simpa using hu
    split at h
    · -- callStart
      split at h
      · cases h
      · rename_i o hobj
        obtain ⟨hok, h⟩ := of_ite_none h
        cases h
        simp only [Bool.or_eq_true, beq_iff_eq, Bool.not_eq_true', not_or, Bool.not_eq_true, Option.isSome_eq_false_iff,
          Option.isNone_iff_eq_none, Bool.not_eq_false] at hok
        exact .callStart huser hobj hok.1.1 hok.1.2 hok.2
    · cases h; exact .push huser .cancel
    · cases h; exact .push huser .close
    · -- callSched
      obtain ⟨hok, h⟩ := of_ite_none h
      cases h
      simp only [Bool.or_eq_true, not_or, Bool.not_eq_true, Option.isSome_eq_false_iff, Option.isNone_iff_eq_none,
        bne_eq_false_iff_eq, Option.map_eq_some_iff] at hok
      obtain ⟨hfresh, o, hobj, hkind⟩ := hok
      exact .callSched huser hobj hfresh hkind
    · cases h; exact .push huser .tcancel
    · cases h; exact .push huser .scheduled
    · -- callPost
      obtain ⟨hok, h⟩ := of_ite_none h
      cases h
      exact .callPost huser (by simpa using hok)
    · cases h; exact .setDisp huser
    · cases h; exact .push huser .poll
    · cases h; exact .push huser .pending
    · cases h; exact .push huser .peerWrite
    · cases h; exact .push huser .peerDrain
    · cases h; exact .push huser .peerOther
    · cases h; exact .push huser .finish
    · -- the drain phase of the harness ends
      split at h
      · rename_i rest hstk
        cases h; exact .pop hstk .finished
      · cases h
    · cases h

end Sonic.Model.Loop
