/-
The frame sequence of a byte string (`Spec.WsFrame.frames`) and traces accepted by the C07 monitor:
whatever the segmentation and wherever `Decode` was called, the frames yielded along an accepted trace
are the first frames of the byte string delivered so far.
-/
import Sonic.Lemmas.WsParse

namespace Sonic.Spec.WsFrame

theorem framesFuel_stable (max : Int) : ∀ (k1 k2 : Nat) (bs : List UInt8), bs.length < k1 → bs.length < k2 →
    framesFuel max k1 bs = framesFuel max k2 bs := by
  intro k1
  induction k1 with
  | zero => intro k2 bs h; omega
  | succ k1 ih =>
    intro k2 bs h1 h2
    cases k2 with
    | zero => omega
    | succ k2 =>
      unfold framesFuel
      cases hp : parse max bs with
      | needMore => rfl
      | tooBig => rfl
      | frame f n =>
        obtain ⟨h2', hn, hle, _, _⟩ := parse_frame hp
        have hge := hdrLen_ge bs
        dsimp only
        rw [ih k2 (bs.drop n) (by rw [List.length_drop]; omega) (by rw [List.length_drop]; omega)]

theorem frames_frame {max : Int} {bs : List UInt8} {f : Frame} {n : Nat} (hp : parse max bs = .frame f n) :
    frames max bs = (f :: (frames max (bs.drop n)).1, (frames max (bs.drop n)).2) := by
  obtain ⟨h2', hn, hle, _, _⟩ := parse_frame hp
  have hge := hdrLen_ge bs
  unfold frames
  conv => lhs; unfold framesFuel
  rw [hp]
  dsimp only
  rw [framesFuel_stable max bs.length ((bs.drop n).length + 1) (bs.drop n) (by rw [List.length_drop]; omega) (by omega)]

theorem frames_needMore {max : Int} {bs : List UInt8} (hp : parse max bs = .needMore) : frames max bs = ([], .needMore) := by
  unfold frames framesFuel; rw [hp]

theorem frames_tooBig {max : Int} {bs : List UInt8} (hp : parse max bs = .tooBig) : frames max bs = ([], .tooBig) := by
  unfold frames framesFuel; rw [hp]

theorem framesFuel_bounded (max : Int) : ∀ (k : Nat) (bs : List UInt8), ∀ f ∈ (framesFuel max k bs).1, (f.payload.length : Int) ≤ max := by
  intro k
  induction k with
  | zero => intro bs f hf; simp [framesFuel] at hf
  | succ k ih =>
    intro bs f hf
    unfold framesFuel at hf
    cases hp : parse max bs with
    | needMore => rw [hp] at hf; simp at hf
    | tooBig => rw [hp] at hf; simp at hf
    | frame g n =>
      rw [hp] at hf
      dsimp only at hf
      rcases List.mem_cons.mp hf with h | h
      · rw [h]; exact parse_frame_bounded hp
      · exact ih _ f h

theorem step_cases {s s' : S} {op : Op} {ob : Obs} (h : step s op ob = some s') :
    (∃ bs, op = .feed bs ∧ ob.out = .ok ∧ ob.len = ((s.held + (s.pending ++ bs).length : Nat) : Int) ∧
        s' = { s with pending := s.pending ++ bs }) ∨
    (∃ bs n, op = .read bs ∧ ob.out = .took n ∧ n ≤ (s.backlog ++ bs).length ∧
        ob.len = ((s.held + (s.pending ++ (s.backlog ++ bs).take n).length : Nat) : Int) ∧
        s' = { s with pending := s.pending ++ (s.backlog ++ bs).take n, backlog := (s.backlog ++ bs).drop n }) ∨
    (op = .decode ∧ ob.out = .needMore ∧ parse s.max s.pending = .needMore ∧ ob.len = (s.pending.length : Nat) ∧
        0 < ob.reserved ∧ s' = { s with held := 0 }) ∨
    (op = .decode ∧ ob.out = .tooBig ∧ parse s.max s.pending = .tooBig ∧ ob.len = (s.pending.length : Nat) ∧
        s' = { s with held := 0 }) ∨
    (∃ f size, op = .decode ∧ ob.out = .frame f size ∧ parse s.max s.pending = .frame f size ∧
        (f.payload.length : Int) ≤ s.max ∧ ob.len = (s.pending.length : Nat) ∧
        s' = { s with pending := s.pending.drop size, held := size }) := by
  unfold step at h
  split at h
  · dsimp only at h
    split at h
    · rename_i hc; left; exact ⟨_, rfl, rfl, hc, (Option.some.inj h).symm⟩
    · cases h
  · dsimp only at h
    split at h
    · rename_i hc; right; left; exact ⟨_, _, rfl, rfl, hc.1, hc.2, (Option.some.inj h).symm⟩
    · cases h
  · split at h
    · split at h
      · rename_i hc; right; right; left; exact ⟨rfl, rfl, ‹parse s.max s.pending = Parse.needMore›, hc.1, hc.2, (Option.some.inj h).symm⟩
      · cases h
    · split at h
      · rename_i hc; right; right; right; left; exact ⟨rfl, rfl, ‹parse s.max s.pending = Parse.tooBig›, hc, (Option.some.inj h).symm⟩
      · cases h
    · split at h
      · rename_i hc
        have hp := ‹parse s.max s.pending = Parse.frame _ _›
        obtain ⟨hf, hsz, hb, hl⟩ := hc
        subst hf; subst hsz
        right; right; right; right; exact ⟨_, _, rfl, rfl, hp, hb, hl, (Option.some.inj h).symm⟩
      · cases h
    · cases h
  · cases h

theorem step_max {s s' : S} {op : Op} {ob : Obs} (h : step s op ob = some s') : s'.max = s.max := by
  rcases step_cases h with ⟨_, _, _, _, e⟩ | ⟨_, _, _, _, _, _, e⟩ | ⟨_, _, _, _, _, e⟩ | ⟨_, _, _, _, e⟩ | ⟨_, _, _, _, _, _, _, e⟩ <;>
    rw [e]

theorem accepts_cons {s : S} {op : Op} {ob : Obs} {r : List (Op × Obs)} (h : accepts s ((op, ob) :: r) = true) :
    ∃ s', step s op ob = some s' ∧ accepts s' r = true := by
  unfold accepts at h
  cases hs : step s op ob with
  | none => rw [hs] at h; cases h
  | some s' => rw [hs] at h; exact ⟨s', rfl, h⟩

/-- The monitor's state after a trace (it stops at the first rejected observation). -/
def endState : S → List (Op × Obs) → S
  | s, [] => s
  | s, (op, ob) :: r => match step s op ob with
      | some s' => endState s' r
      | none => s

/-- The bytes that entered the decoder's buffer along a trace. -/
def delivered : S → List (Op × Obs) → List UInt8
  | _, [] => []
  | s, (op, ob) :: r => match step s op ob with
      | some s' =>
          (match op, ob.out with
            | .feed bs, _ => bs
            | .read bs, .took n => (s.backlog ++ bs).take n
            | _, _ => []) ++ delivered s' r
      | none => []

/-- The frames `Decode` returned along a trace. -/
def yielded : List (Op × Obs) → List Frame
  | [] => []
  | (_, ⟨.frame f _, _, _⟩) :: r => f :: yielded r
  | _ :: r => yielded r

theorem frames_trace : ∀ (tr : List (Op × Obs)) (s : S), accepts s tr = true → ∀ x : List UInt8,
    frames s.max (s.pending ++ delivered s tr ++ x) =
      (yielded tr ++ (frames s.max ((endState s tr).pending ++ x)).1, (frames s.max ((endState s tr).pending ++ x)).2) := by
  intro tr
  induction tr with
  | nil => intro s _ x; simp [delivered, yielded, endState]
  | cons e r ih =>
    intro s h x
    obtain ⟨op, ob⟩ := e
    obtain ⟨s', hs, h⟩ := accepts_cons h
    have ih' := ih s' h x
    rw [step_max hs] at ih'
    unfold delivered endState
    rw [hs]
    dsimp only
    rcases step_cases hs with ⟨bs, e1, e2, _, e⟩ | ⟨bs, n, e1, e2, _, _, e⟩ | ⟨e1, e2, hp, _, _, e⟩ | ⟨e1, e2, hp, _, e⟩ |
      ⟨f, size, e1, e2, hp, _, _, e⟩
    all_goals
      subst e1; subst e
      obtain ⟨o, l, rs⟩ := ob
      dsimp only at e2; subst e2
      dsimp only at ih' ⊢
      unfold yielded
    · rw [← ih']; simp [List.append_assoc]
    · rw [← ih']; simp [List.append_assoc]
    · simpa using ih'
    · simpa using ih'
    · obtain ⟨-, -, hle, -, -⟩ := parse_frame hp
      have hp' := @parse_append_frame s.max s.pending ([] ++ delivered { s with pending := s.pending.drop size, held := size } r ++ x) f size hp
      simp only [List.nil_append, List.append_assoc] at hp' ⊢
      rw [frames_frame hp', List.drop_append_of_le_length hle]
      simp only [List.append_assoc] at ih'
      rw [ih']
      simp

/-- What the monitor guarantees about a single accepted observation. -/
def Good (max : Int) (ob : Obs) : Prop :=
  ob.out ≠ .panic ∧ ob.out ≠ .other ∧ (∀ f n, ob.out = .frame f n → (f.payload.length : Int) ≤ max) ∧
  (ob.out = .needMore → 0 < ob.reserved)

theorem step_good {s s' : S} {op : Op} {ob : Obs} (h : step s op ob = some s') : Good s.max ob := by
  rcases step_cases h with ⟨_, _, e2, _, _⟩ | ⟨_, _, _, e2, _, _, _⟩ | ⟨_, e2, _, _, hr, _⟩ | ⟨_, e2, _, _, _⟩ |
    ⟨f, n, _, e2, _, hb, _, _⟩ <;>
  refine ⟨by rw [e2]; simp, by rw [e2]; simp, fun f' n' h' => ?_, fun h' => ?_⟩ <;> rw [e2] at h' <;> try cases h'
  · exact hr
  · exact hb

theorem accepts_good : ∀ (tr : List (Op × Obs)) (s : S), accepts s tr = true → ∀ e ∈ tr, Good s.max e.2 := by
  intro tr
  induction tr with
  | nil => intro s _ e he; cases he
  | cons e0 r ih =>
    intro s h e he
    obtain ⟨op, ob⟩ := e0
    obtain ⟨s', hs, h⟩ := accepts_cons h
    rcases List.mem_cons.mp he with h1 | h1
    · rw [h1]; exact step_good hs
    · have := ih s' h e h1; rw [step_max hs] at this; exact this

theorem accepts_last : ∀ (tr : List (Op × Obs)) (s : S), accepts s tr = true → ∀ ob, tr.getLast? = some (.decode, ob) →
    (ob.out = .needMore → parse s.max (endState s tr).pending = .needMore) ∧
    (ob.out = .tooBig → parse s.max (endState s tr).pending = .tooBig) := by
  intro tr
  induction tr with
  | nil => intro s _ ob h; cases h
  | cons e0 r ih =>
    intro s h ob hl
    obtain ⟨op, ob0⟩ := e0
    obtain ⟨s', hs, h⟩ := accepts_cons h
    unfold endState
    rw [hs]
    dsimp only
    cases r with
    | nil =>
      simp only [List.getLast?_singleton, Option.some.injEq, Prod.mk.injEq] at hl
      obtain ⟨h1, h2⟩ := hl
      subst h1; subst h2
      unfold endState
      rcases step_cases hs with ⟨_, e1, _⟩ | ⟨_, _, e1, _⟩ | ⟨_, e2, hp, _, _, e⟩ | ⟨_, e2, hp, _, e⟩ | ⟨f, n, _, e2, _, _, _, _⟩
      · cases e1
      · cases e1
      · subst e; exact ⟨fun _ => hp, fun h' => (by rw [e2] at h'; cases h')⟩
      · subst e; exact ⟨fun h' => (by rw [e2] at h'; cases h'), fun _ => hp⟩
      · exact ⟨fun h' => (by rw [e2] at h'; cases h'), fun h' => (by rw [e2] at h'; cases h')⟩
    | cons e1 r' =>
      rw [List.getLast?_cons_cons] at hl
      have := ih s' h ob hl
      rw [step_max hs] at this
      exact this

theorem frames_drained {tr : List (Op × Obs)} {s : S} (h : accepts s tr = true) {ob : Obs}
    (hl : tr.getLast? = some (.decode, ob)) :
    (ob.out = .needMore → frames s.max (s.pending ++ delivered s tr) = (yielded tr, .needMore)) ∧
    (ob.out = .tooBig → frames s.max (s.pending ++ delivered s tr) = (yielded tr, .tooBig)) := by
  have hf := frames_trace tr s h []
  simp only [List.append_nil] at hf
  obtain ⟨h1, h2⟩ := accepts_last tr s h ob hl
  constructor
  · intro ho; rw [hf, frames_needMore (h1 ho)]; simp
  · intro ho; rw [hf, frames_tooBig (h2 ho)]; simp

/-- The bytes of the `feed` operations of a trace, in order. -/
def fedBytes : List (Op × Obs) → List UInt8
  | [] => []
  | (.feed bs, _) :: r => bs ++ fedBytes r
  | _ :: r => fedBytes r

def NoRead (tr : List (Op × Obs)) : Prop := ∀ e ∈ tr, ∀ bs, e.1 ≠ .read bs

theorem delivered_noRead : ∀ (tr : List (Op × Obs)) (s : S), accepts s tr = true → NoRead tr → delivered s tr = fedBytes tr := by
  intro tr
  induction tr with
  | nil => intro s _ _; rfl
  | cons e0 r ih =>
    intro s h hn
    obtain ⟨op, ob⟩ := e0
    obtain ⟨s', hs, h⟩ := accepts_cons h
    unfold delivered
    rw [hs]
    dsimp only
    rw [ih s' h (fun e he => hn e (List.mem_cons_of_mem _ he))]
    cases op with
    | feed bs => rfl
    | read bs => exact absurd rfl (hn (.read bs, ob) (List.mem_cons_self ..) bs)
    | decode => simp [fedBytes]

end Sonic.Spec.WsFrame
