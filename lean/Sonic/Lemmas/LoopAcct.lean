/-
`AcctInv` (pending accounting) is preserved by every transition of the loop model.
-/
import Sonic.Lemmas.LoopInv
import Sonic.Lemmas.LoopStep

namespace Sonic.Model.Loop
open Sonic.Spec.Loop (Ev Ret Res OpKind ObjKind maxDispatch)

theorem acct_init : AcctInv ({} : World) := ⟨List.nodup_nil, rfl⟩

/-- **Pending accounting is an invariant of the loop model.** Every update of an object moves `pending` with its
interest bits (the `*_bal` lemmas); beside those, `pending` moves only with the post queue (`Post`) and with a
posted handler finishing (`exit` of a `postDone` frame), and a dispatched post goes from the queue to the stack. -/
theorem step_acct (w w' : World) (e : Ev) (hI : AcctInv w) (h : step w e = some w') : AcctInv w' := by
  have hn := hI.1
  have hacc := hI.2
  cases step_sound h with
  | newObj hstk hfresh =>
    refine ⟨List.nodup_cons.2 ⟨getObj_none_not_mem hfresh, hn⟩, ?_⟩
    simp only [bits, bitsOf]
    simp only [Bool.false_eq_true, if_false]
    omega
  | @exit op a rest _ hstk hrule =>
    rw [hstk] at hacc
    -- the frame is gone; unless it was a posted handler the count of those is unchanged
    have hpop : a ≠ .postDone → AcctInv { w with stack := rest } := fun ha =>
      acct_same hI (Bal.refl hn) (by rw [hstk]; cases a <;> first | rfl | exact absurd rfl ha)
    cases hrule with
    | none => exact hpop (by simp)
    | decDisp => exact acct_same (hpop (by simp)) (Bal.refl hn) rfl
    | postDone => exact ⟨hn, by simp only [postFrames] at hacc ⊢; omega⟩
    | timerGone | timerOnce | timerBusy => exact hpop (by simp)
    | timerStop hobj => exact acct_bal (hpop (by simp)) (setObj_bal _ _ hn hobj rfl rfl)
    | timerRearm hobj => exact acct_bal (hpop (by simp)) (armTimer_bal hn hobj)
  | cancel hstk hrule =>
    cases hrule with
    | read hobj => exact acct_same hI (delRead_bal hn hobj) (by rw [hstk]; rfl)
    | write hobj => exact acct_same hI (delWrite_bal hn hobj) (by rw [hstk]; rfl)
    | done => exact acct_same hI (Bal.refl hn) (by rw [hstk]; rfl)
  | poll hstk hrule =>
    cases hrule with
    | post hop hkind hqueue =>
      rw [hstk, hqueue] at hacc
      exact ⟨hn, by simp only [postFrames, List.length_cons] at hacc ⊢; omega⟩
    | @timer _ o _ _ hobj _ hset =>
      exact acct_same hI (setObj_bal { o with evR := false, tstate := .ready } (w.pending - 1) hn hobj rfl
        (by simp only [bitsOf, hset, Bool.false_eq_true, if_true, if_false]; omega)) (by rw [hstk]; rfl)
    | read hop hnopost hnotimer hobj =>
      exact acct_same hI (delRead_bal hn hobj) (by rw [hstk]; rfl)
    | write hop hnopost hnotimer hobj =>
      exact acct_same hI (delWrite_bal hn hobj) (by rw [hstk]; rfl)
  | inline hstk | startFail hstk => exact acct_same hI (Bal.refl hn) (by rw [hstk]; rfl)
  | deferRead hstk hobj => exact acct_same hI (setRead_bal hn hobj) (by rw [hstk]; rfl)
  | deferWrite hstk hobj => exact acct_same hI (setWrite_bal hn hobj) (by rw [hstk]; rfl)
  | close hstk hobj => exact acct_same hI (closeObj_bal hn hobj) (by rw [hstk]; rfl)
  | schedNow hstk hobj honce hzero hready hkind =>
    rename_i o
    exact acct_same hI (setObj_bal { o with cancelled := false } w.pending hn hobj rfl rfl) (by rw [hstk]; rfl)
  | arm hstk hobj => exact acct_same hI (armTimer_bal hn hobj) (by rw [hstk]; rfl)
  | @tcancel _ _ o hstk hobj =>
    exact acct_same hI (setObj_bal { o with evR := false, cancelled := true, cancels := o.cancels + 1, tstate := .ready }
      (unsetPending w o).pending hn hobj rfl (by simp only [bitsOf, unsetPending, Bool.false_eq_true, if_false]; omega))
      (by rw [hstk]; rfl)
  | posted hstk =>
    rw [hstk] at hacc
    exact ⟨hn, by simp only [postFrames, List.length_append, List.length_singleton] at hacc ⊢; omega⟩
  | pop hstk hdrop =>
    exact acct_same hI (Bal.refl hn) (by rw [hstk, postFrames_cons_other fun op => hdrop.lib op _])
  | push huser hcall =>
    exact acct_same hI (Bal.refl hn) (postFrames_cons_other fun op => hcall.lib op _)
  | callStart | callSched | callPost | setDisp => exact acct_same hI (Bal.refl hn) rfl

end Sonic.Model.Loop
