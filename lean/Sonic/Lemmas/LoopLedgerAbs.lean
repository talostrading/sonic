/-
The ledger seen from the model: `absOwed w` lists, for a state of the loop model, the operations whose callback the
loop owes — one record per registered interest (the operation whose continuation is stored in the slot) and one per
queued post.  The refinement (`LoopLedgerSim.lean`) shows that the API-level ledger `Sonic.Spec.Ledger` always holds
a permutation of this list.
-/
import Sonic.Lemmas.LoopLedgerInvStep
import Sonic.Spec.Ledger

namespace Sonic.Model.Loop
open Sonic.Spec.Loop (Ev Ret Res OpKind ObjKind maxDispatch)
open Sonic.Spec.Ledger (Rec)

/-- The default `.read` is never met: under `LInv` every stored handler is in the table (`recOf_of_opIn`). -/
def recOf (ops : List OpInfo) (op obj : Nat) : Rec := ⟨op, obj, ((opIn ops op).map (·.kind)).getD .read⟩

def contrib (ops : List OpInfo) (o : Obj) : List Rec :=
  (if o.evR then [recOf ops o.hR o.id] else []) ++ (if o.evW then [recOf ops o.hW o.id] else [])

def absObjs (ops : List OpInfo) : List Obj → List Rec
  | [] => []
  | o :: r => contrib ops o ++ absObjs ops r

def absPosts (posts : List Nat) : List Rec := posts.map fun p => ⟨p, 0, .post⟩

def absOwed (w : World) : List Rec := absObjs w.ops w.objs ++ absPosts w.posts

theorem recOf_of_opIn {ops : List OpInfo} {x : Nat} {info : OpInfo} (h : opIn ops x = some info) (k : Nat) :
    recOf ops x k = ⟨x, k, info.kind⟩ := by
  simp only [recOf, h, Option.map_some, Option.getD_some]

theorem mem_contrib {ops : List OpInfo} {o : Obj} {r : Rec} :
    r ∈ contrib ops o ↔ (o.evR = true ∧ r = recOf ops o.hR o.id) ∨ (o.evW = true ∧ r = recOf ops o.hW o.id) := by
  unfold contrib
  cases o.evR <;> cases o.evW <;> simp

theorem absObjs_append (ops : List OpInfo) : ∀ A B : List Obj, absObjs ops (A ++ B) = absObjs ops A ++ absObjs ops B
  | [], _ => rfl
  | o :: A, B => by simp only [List.cons_append, absObjs, absObjs_append ops A B, List.append_assoc]

theorem mem_absObjs {ops : List OpInfo} {r : Rec} : ∀ {l : List Obj}, r ∈ absObjs ops l ↔ ∃ o ∈ l, r ∈ contrib ops o
  | [] => by simp [absObjs]
  | o :: l => by simp only [absObjs, List.mem_append, mem_absObjs (l := l), List.mem_cons, exists_eq_or_imp]

theorem contrib_length (ops : List OpInfo) (o : Obj) : ((contrib ops o).length : Int) = bitsOf o := by
  unfold contrib bitsOf; cases o.evR <;> cases o.evW <;> rfl

theorem absObjs_length (ops : List OpInfo) : ∀ l : List Obj, ((absObjs ops l).length : Int) = bits l
  | [] => by simp [absObjs, bits]
  | o :: r => by
    have := absObjs_length ops r
    have := contrib_length ops o
    simp only [absObjs, bits, List.length_append]; omega

theorem absOwed_length (w : World) : ((absOwed w).length : Int) = bits w.objs + w.posts.length := by
  have := absObjs_length w.ops w.objs
  simp only [absOwed, absPosts, List.length_append, List.length_map]; omega

theorem contrib_obj {ops : List OpInfo} {o : Obj} {r : Rec} (h : r ∈ contrib ops o) : r.obj = o.id := by
  rcases mem_contrib.1 h with ⟨_, rfl⟩ | ⟨_, rfl⟩ <;> rfl

theorem setObj_split {l : List Obj} {o o' : Obj} (hn : (ids l).Nodup) (hm : o ∈ l) (hid : o'.id = o.id) :
    ∃ A B, l = A ++ o :: B ∧ (l.map fun x => if x.id == o'.id then o' else x) = A ++ o' :: B ∧ ∀ x ∈ A ++ B, x.id ≠ o.id := by
  obtain ⟨A, B, rfl⟩ := List.append_of_mem hm
  have hne : ∀ x ∈ A ++ B, x.id ≠ o.id := by
    intro x hx e
    simp only [ids, List.map_append, List.map_cons] at hn
    have h1 := (List.nodup_cons.1 (List.perm_middle.nodup_iff.1 hn)).1
    exact h1 (by rw [← e, ← List.map_append]; exact List.mem_map_of_mem hx)
  have hfix : ∀ L : List Obj, (∀ x ∈ L, x ∈ A ++ B) → (L.map fun x => if x.id == o'.id then o' else x) = L := by
    intro L hL
    refine (List.map_congr_left fun x hx => ?_).trans (List.map_id L)
    have : (x.id == o'.id) = false := by rw [hid]; exact beq_false_of_ne (hne x (hL x hx))
    rw [this]; rfl
  refine ⟨A, B, rfl, ?_, hne⟩
  rw [List.map_append, List.map_cons, hfix A fun x hx => List.mem_append_left _ hx,
    hfix B fun x hx => List.mem_append_right _ hx, hid, beq_self_eq_true, if_pos rfl]

theorem setObj_self_objs {w : World} {o : Obj} (hn : (ids w.objs).Nodup) (hg : getObj w o.id = some o) : (setObj w o).objs = w.objs := by
  obtain ⟨A, B, e1, e2, _⟩ := setObj_split hn (find_mem hg).1 rfl
  exact e2.trans e1.symm

theorem setObj_absObjs {w : World} {o : Obj} (o' : Obj) (hn : (ids w.objs).Nodup) (hg : getObj w o.id = some o) (hid : o'.id = o.id) :
    ∃ A B, absObjs w.ops w.objs = A ++ contrib w.ops o ++ B ∧ absObjs w.ops (setObj w o').objs = A ++ contrib w.ops o' ++ B ∧
      (∀ r ∈ A ++ B, r.obj ≠ o.id) := by
  obtain ⟨A, B, e1, e2, hne⟩ := setObj_split hn (find_mem hg).1 hid
  refine ⟨absObjs w.ops A, absObjs w.ops B, ?_, ?_, ?_⟩
  · simp only [e1, absObjs_append, absObjs, List.append_assoc]
  · simp only [setObj, e2, absObjs_append, absObjs, List.append_assoc]
  · intro r hr
    rw [← absObjs_append] at hr
    obtain ⟨x, hx, hrx⟩ := mem_absObjs.1 hr
    rw [contrib_obj hrx]; exact hne x hx

theorem contrib_info {ops : List OpInfo} {o : Obj} {r : Rec} (ho : HObj ops o) (hr : r ∈ contrib ops o) :
    opIn ops r.id = some ⟨r.id, r.obj, r.kind⟩ ∧ r.obj = o.id ∧ r.kind ≠ .post ∧
      ((o.evR = true ∧ r.id = o.hR ∧ (o.kind = .timer → r.kind.isTimer = true) ∧ (o.kind ≠ .timer → r.kind.isRead = true)) ∨
       (o.evW = true ∧ r.id = o.hW ∧ r.kind.isWrite = true)) := by
  rcases mem_contrib.1 hr with ⟨he, rfl⟩ | ⟨he, rfl⟩
  · obtain ⟨info, h1, h2, h3, h4, h5⟩ := ho.1 he
    rw [recOf_of_opIn h1]
    refine ⟨?_, rfl, h3, Or.inl ⟨he, rfl, h4, h5⟩⟩
    rw [h1, ← opIn_id h1, ← h2]
  · obtain ⟨info, h1, h2, h3, h4⟩ := ho.2.1 he
    rw [recOf_of_opIn h1]
    refine ⟨?_, rfl, h3, Or.inr ⟨he, rfl, h4⟩⟩
    rw [h1, ← opIn_id h1, ← h2]

theorem contrib_mono {ops ops' : List OpInfo} (hm : ∀ {x info}, opIn ops x = some info → opIn ops' x = some info) {o : Obj}
    (ho : HObj ops o) : contrib ops' o = contrib ops o := by
  unfold contrib
  congr 1
  · by_cases he : o.evR = true
    · obtain ⟨info, h1, _⟩ := ho.1 he
      rw [if_pos he, if_pos he, recOf_of_opIn h1, recOf_of_opIn (hm h1)]
    · rw [if_neg he, if_neg he]
  · by_cases he : o.evW = true
    · obtain ⟨info, h1, _⟩ := ho.2.1 he
      rw [if_pos he, if_pos he, recOf_of_opIn h1, recOf_of_opIn (hm h1)]
    · rw [if_neg he, if_neg he]

theorem absObjs_mono {ops ops' : List OpInfo} (hm : ∀ {x info}, opIn ops x = some info → opIn ops' x = some info) :
    ∀ (l : List Obj), (∀ o ∈ l, HObj ops o) → absObjs ops' l = absObjs ops l
  | [], _ => rfl
  | o :: rest, h => by
    rw [absObjs, absObjs, contrib_mono hm (h o (List.mem_cons_self ..)),
      absObjs_mono hm rest (fun x hx => h x (List.mem_cons_of_mem _ hx))]

theorem absOwed_canonical {w : World} (hI : LInv w) {r : Rec} (h : r ∈ absOwed w) :
    opIn w.ops r.id = some ⟨r.id, r.obj, r.kind⟩ := by
  rcases List.mem_append.1 h with h1 | h1
  · obtain ⟨o, ho, hr⟩ := mem_absObjs.1 h1
    exact (contrib_info (hI.objs o ho) hr).1
  · obtain ⟨p, hp, rfl⟩ := List.mem_map.1 h1
    exact hI.posts p hp

end Sonic.Model.Loop
