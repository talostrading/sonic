/-
Facts about the RFC 6455 parser of `Spec/WsFrame.lean`: what a `frame` answer means, and prefix
monotonicity (once the parser has answered `frame` or `tooBig`, more bytes do not change the answer) —
the reason why the frame sequence does not depend on how the bytes were split.
-/
import Sonic.Spec.WsFrame

namespace Sonic.Spec.WsFrame

theorem byteAt_append {bs t : List UInt8} {i : Nat} (h : i < bs.length) : byteAt (bs ++ t) i = byteAt bs i := by
  unfold byteAt
  rw [List.getD_eq_getElem?_getD, List.getD_eq_getElem?_getD, List.getElem?_append_left h]

theorem extLen_le (b : Nat) : extLen b ≤ 8 := by
  unfold extLen; split
  · omega
  · split <;> omega
theorem maskLen_le (b : Nat) : maskLen b ≤ 4 := by unfold maskLen; split <;> omega

theorem hdrLen_le (bs : List UInt8) : hdrLen bs ≤ 14 := by
  unfold hdrLen; have := extLen_le (byteAt bs 1); have := maskLen_le (byteAt bs 1); omega

theorem hdrLen_ge (bs : List UInt8) : 2 ≤ hdrLen bs := by unfold hdrLen; omega

theorem ext_le_hdrLen (bs : List UInt8) : 2 + extLen (byteAt bs 1) ≤ hdrLen bs := by unfold hdrLen; omega

theorem declLen_append {bs t : List UInt8} (h : 2 + extLen (byteAt bs 1) ≤ bs.length) :
    declLen (bs ++ t) = declLen bs := by
  unfold declLen
  rw [byteAt_append (by omega)]
  split
  · rfl
  · rw [List.drop_append_of_le_length (by omega), List.take_append_of_le_length (by rw [List.length_drop]; omega)]

theorem hdrLen_append {bs t : List UInt8} (h2 : 2 ≤ bs.length) : hdrLen (bs ++ t) = hdrLen bs := by
  unfold hdrLen; rw [byteAt_append (by omega)]

theorem frameOf_append {bs t : List UInt8} (h : hdrLen bs + declLen bs ≤ bs.length) :
    frameOf (bs ++ t) = frameOf bs := by
  have h2 : 2 ≤ bs.length := Nat.le_trans (hdrLen_ge bs) (Nat.le_of_add_right_le h)
  have hh : 2 + extLen (byteAt bs 1) ≤ bs.length := by unfold hdrLen at h; omega
  have hm : 2 + extLen (byteAt bs 1) + maskLen (byteAt bs 1) ≤ bs.length := by unfold hdrLen at h; omega
  unfold frameOf
  simp only [hdrLen_append h2, declLen_append hh]
  rw [byteAt_append (by omega), byteAt_append (by omega)]
  rw [List.drop_append_of_le_length (by omega), List.take_append_of_le_length (by rw [List.length_drop]; omega)]
  rw [List.drop_append_of_le_length (by unfold hdrLen; omega), List.take_append_of_le_length (by rw [List.length_drop]; omega)]

theorem parse_cases (max : Int) (bs : List UInt8) :
    parse max bs = .needMore ∨
    (parse max bs = .tooBig ∧ 2 ≤ bs.length ∧ 2 + extLen (byteAt bs 1) ≤ bs.length ∧ (declLen bs : Int) > max) ∨
    (parse max bs = .frame (frameOf bs) (hdrLen bs + declLen bs) ∧ 2 ≤ bs.length ∧ hdrLen bs + declLen bs ≤ bs.length ∧
      (declLen bs : Int) ≤ max) := by
  unfold parse
  by_cases c1 : bs.length < 2
  · left; rw [if_pos c1]
  by_cases c2 : bs.length < 2 + extLen (byteAt bs 1)
  · left; rw [if_neg c1, if_pos c2]
  by_cases c3 : (declLen bs : Int) > max
  · right; left; rw [if_neg c1, if_neg c2, if_pos c3]; exact ⟨rfl, Nat.le_of_not_lt c1, Nat.le_of_not_lt c2, c3⟩
  by_cases c4 : bs.length < hdrLen bs
  · left; rw [if_neg c1, if_neg c2, if_neg c3, if_pos c4]
  by_cases c5 : bs.length < hdrLen bs + declLen bs
  · left; rw [if_neg c1, if_neg c2, if_neg c3, if_neg c4, if_pos c5]
  · right; right; rw [if_neg c1, if_neg c2, if_neg c3, if_neg c4, if_neg c5]
    exact ⟨rfl, Nat.le_of_not_lt c1, Nat.le_of_not_lt c5, Int.not_lt.mp c3⟩

theorem parse_frame {max : Int} {bs : List UInt8} {f : Frame} {n : Nat} (h : parse max bs = .frame f n) :
    2 ≤ bs.length ∧ n = hdrLen bs + declLen bs ∧ n ≤ bs.length ∧ f = frameOf bs ∧ (declLen bs : Int) ≤ max := by
  rcases parse_cases max bs with h' | ⟨h', _⟩ | ⟨h', h2, hn, hd⟩ <;> rw [h'] at h
  · cases h
  · cases h
  · cases h; exact ⟨h2, rfl, hn, rfl, hd⟩

theorem parse_tooBig {max : Int} {bs : List UInt8} (h : parse max bs = .tooBig) :
    2 ≤ bs.length ∧ 2 + extLen (byteAt bs 1) ≤ bs.length ∧ (declLen bs : Int) > max := by
  rcases parse_cases max bs with h' | ⟨_, hh⟩ | ⟨h', _⟩
  · rw [h'] at h; cases h
  · exact hh
  · rw [h'] at h; cases h

theorem parse_frame_of {max : Int} {bs : List UInt8} (hd : (declLen bs : Int) ≤ max)
    (hn : hdrLen bs + declLen bs ≤ bs.length) : parse max bs = .frame (frameOf bs) (hdrLen bs + declLen bs) := by
  have := ext_le_hdrLen bs
  unfold parse
  rw [if_neg (by omega), if_neg (by omega), if_neg (by omega), if_neg (by omega), if_neg (by omega)]

theorem parse_tooBig_of {max : Int} {bs : List UInt8} (he : 2 + extLen (byteAt bs 1) ≤ bs.length)
    (hd : (declLen bs : Int) > max) : parse max bs = .tooBig := by
  unfold parse
  rw [if_neg (by omega), if_neg (by omega), if_pos hd]

theorem frameOf_payload_length {bs : List UInt8} (h : hdrLen bs + declLen bs ≤ bs.length) :
    (frameOf bs).payload.length = declLen bs := by
  unfold frameOf; simp only [List.length_take, List.length_drop]; omega

theorem parse_frame_bounded {max : Int} {bs : List UInt8} {f : Frame} {n : Nat} (h : parse max bs = .frame f n) :
    (f.payload.length : Int) ≤ max := by
  obtain ⟨_, hn, hle, hf, hd⟩ := parse_frame h
  rw [hf, frameOf_payload_length (by omega)]; exact hd

theorem parse_append_frame {max : Int} {bs t : List UInt8} {f : Frame} {n : Nat} (h : parse max bs = .frame f n) :
    parse max (bs ++ t) = .frame f n := by
  obtain ⟨h2, hn, hle, hf, hd⟩ := parse_frame h
  have hh : 2 + extLen (byteAt bs 1) ≤ bs.length := by unfold hdrLen at hn; omega
  have := @parse_frame_of max (bs ++ t)
    (by rw [declLen_append hh]; exact hd)
    (by rw [declLen_append hh, hdrLen_append h2, List.length_append]; omega)
  rw [this, frameOf_append (by omega), hdrLen_append h2, declLen_append hh, hf, hn]

theorem parse_append_tooBig {max : Int} {bs t : List UInt8} (h : parse max bs = .tooBig) :
    parse max (bs ++ t) = .tooBig := by
  obtain ⟨h2, he, hd⟩ := parse_tooBig h
  exact parse_tooBig_of (by rw [byteAt_append (by omega), List.length_append]; omega) (by rw [declLen_append he]; exact hd)

end Sonic.Spec.WsFrame
