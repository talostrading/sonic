/-
The coupling invariant `Coup` between the asynchronous WebSocket model (with the observer of `Model/WsAsyncObs.lean`) and
the C17 property monitor, and, one lemma per kind of update of model, observer and monitor state, the updates that keep
it whatever the transition they occur in.
-/
import Sonic.Model.WsAsyncObs
import Sonic.Lemmas.WsAsyncStep
import Sonic.Lemmas.WsAsyncObsLib
import Sonic.Lemmas.WsAsyncObsMon

namespace Sonic.Model.WsAsync

theorem owed_of_locs {s : St} {p : CbId × LK} (hp : p ∈ locs s) : eraseK p ∈ owedList s := by
  rw [owed_eq_locs]
  exact List.mem_map_of_mem hp

theorem locs_started {s : St} (hI : Inv s) : ∀ p ∈ locs s, p.1 ∈ s.started := by
  intro p hp
  have h1 := hI.cbs p.1
  have : 0 < (owedList s).countP (·.1 == p.1) := List.countP_pos_iff.2 ⟨eraseK p, owed_of_locs hp, by simp [eraseK]⟩
  exact List.count_pos_iff.1 (by omega)

theorem locs_not_rd {s : St} (hI : Inv s) (hrb : s.readBusy = false) {p : CbId × LK} (hp : p ∈ locs s) : p.2.isRd = false := by
  have hreads := hI.reads
  rw [hrb] at hreads
  cases hr : p.2.isRd with
  | false => rfl
  | true => exact absurd hreads (Nat.ne_of_gt (List.countP_pos_iff.2 ⟨eraseK p, owed_of_locs hp, hr⟩))

end Sonic.Model.WsAsync

namespace Sonic.Model.WsAsyncObs
open Sonic.Model.WsAsync
open Sonic.Spec.WsStream (Bytes StreamState replyCode closeCodeOf u16 isViolation controlOp)
open Sonic.Spec.WsAsync (Cb Ev Kind Want WireFrame findCb setCb enterPush failW addW entered deliver replyFor LedEq)

abbrev MS := Sonic.Spec.WsAsync.S
abbrev mstep := Sonic.Spec.WsAsync.step
abbrev mrun := Sonic.Spec.WsAsync.run

/-- what the monitor's stack records of the model's control stack -/
inductive Shape where
  | call | poll | handler (cb : Nat)
  deriving DecidableEq, Repr

def shapeF : Sonic.Spec.WsAsync.Frame → Shape
  | .call (some _) => .call
  | .call none => .poll
  | .handler cb => .handler cb

def shapeT : Task → Option Shape
  | .ret => some .call
  | .pollRet => some .poll
  | .exit cb => some (.handler cb)
  | _ => none

/-- tasks that only ever sit on top of the control stack: the entry of a read callback, of a write-side callback that
completes inside its own call, and the control callback -/
def special : Task → Bool
  | .invoke _ _ true => true
  | .invoke _ r false => r != .ok && r != .err
  | .ctl => true
  | _ => false

/-- the monitor's `last` may lag behind `State()` while one of these is on top: it is brought up to date by the event
of that task -/
def windowTop : List Task → Bool
  | .ret :: _ => true
  | .invoke _ _ true :: _ => true
  | .ctl :: _ => true
  | _ => false

def compat (k : Kind) : LK → Prop
  | .w => k.isRead = false
  | .f => k = .read
  | .m => k = .readMsg
  | .r => k.isRead = true

/-- frames the model has already queued for which the monitor will note the obligation at the coming event -/
def pendW (s : St) (o : Ob) (last : StreamState) : List Want :=
  match s.stack with
  | .invoke cb r true :: _ =>
    enterPush (kindOf o cb) last (stOf s.ws) (resOf r) (if kindOf o cb == .read then o.cur else none)
  | .ctl :: _ =>
    let g := o.cur.getD default
    (replyFor last { fin := true, rsv := 0, op := g.op, masked := false, payload := g.payload }).toList
  | _ => []

/-- what holds while a callback entry is on top of the control stack (last arm: no frame is current otherwise) -/
def Window (s : St) (o : Ob) (m : MS) : Prop :=
  match s.stack with
  | .invoke cb r true :: _ =>
    r ≠ .cancelled ∧ (r = .eof → s.ws = .terminated) ∧
    (kindOf o cb = .read → o.held = [] ∧ ((r = .ok ∨ r = .proto) → ∃ g, o.cur = some g ∧ s.ws ≠ .terminated)) ∧
    (kindOf o cb = .readMsg → r = .ok →
      ∃ g, o.cur = some g ∧ g.fin = true ∧ controlOp g.op = false ∧ s.ws ≠ .terminated)
  | .ctl :: _ => ∃ g, o.cur = some g ∧ controlOp g.op = true ∧ s.ws ≠ .terminated
  | .invoke cb r false :: _ =>
    o.cur = none ∧ r ≠ .proto ∧
    (r = .cancelled ∨ r = .eof ∨ r = .tooBig → ∃ c, findCb m cb = some c ∧ c.returned = false) ∧
    (r = .cancelled ∨ r = .eof → m.last ≠ .active)
  | _ => o.cur = none

/-- The coupling invariant. `x`: frames the read path is about to take (between taking and handling). -/
structure Coup (max : Nat) (s : St) (o : Ob) (m : MS) (x : List CFrame) : Prop where
  max : m.max = max
  -- the ledger: the monitor's entries are the callbacks handed to the API; done = in the log; of the kind the observer noted
  ledMem : ∀ c ∈ m.cbs, c.id ∈ s.started ∧ c.done = decide (c.id ∈ s.log) ∧ c.kind = kindOf o c.id
  ledAll : ∀ cb ∈ s.started, ∃ c ∈ m.cbs, c.id = cb
  -- stack shapes: the monitor's frames are the calls and handlers on the control stack; callback entries only on top
  stk : m.stack.map shapeF = s.stack.filterMap shapeT
  spec : ∀ t ∈ s.stack.tail, special t = false
  -- a write completes with an error only after the monitor was told of a transport failure; `healthy` agrees one way
  errs : ∀ cb, Task.invoke cb .err false ∈ s.stack → m.healthy = false
  hl : m.healthy = true → s.healthy = true
  -- `State()` as the monitor saw it last, up to the event of the task on top
  last : m.last = stOf s.ws ∨ windowTop s.stack = true
  -- frames owed: the observer knows the content of every submitted frame; what the monitor expects, with what it
  -- will note at the coming event (`pendW`), is what was submitted and the peer has not reported yet
  subF : o.sub.map (·.frame) = s.submitted
  subM : ∀ y ∈ o.sub, y.want.matches y.wf = true
  exp : m.healthy = true → m.expect ++ pendW s o m.last = (o.sub.drop o.reported).map (·.want)
  rep : m.healthy = true → o.reported ≤ o.sub.length
  -- the peer's stream: fragments held ++ frame in hand ++ frames being taken ++ inbox ++ network
  inb : o.inboxC.map absFrame = s.inbox
  rdq : m.synced = true → s.ws ≠ .terminated →
    m.inq = o.held ++ o.cur.toList ++ x ++ o.inboxC ++ o.net ∧ m.macc = o.macc
  heldOk : ∀ g ∈ o.held, controlOp g.op = false ∧ g.fin = false
  win : Window s o m
  -- every callback the library holds is of the kind its call registered
  chain : ∀ p ∈ locs s, compat (kindOf o p.1) p.2
  -- the outstanding reader: there is one iff `readBusy`; every read callback held is it; its kind; only a message read
  -- gathers fragments; it was handed to the API
  rdr1 : s.readBusy = o.reader.isSome
  rdr2 : ∀ p ∈ locs s, p.2.isRd = true → ∃ b, o.reader = some (p.1, b) ∧ (p.2 = .f → b = false) ∧ (p.2 = .m → b = true)
  rdr3 : ∀ cb b, o.reader = some (cb, b) → kindOf o cb = (if b then .readMsg else .read)
  rdr4 : (∀ cb, o.reader ≠ some (cb, true)) → o.held = [] ∧ o.macc = []
  rdr5 : ∀ cb b, o.reader = some (cb, b) → cb ∈ s.started
  -- the read reactor is armed only on a stream that can be read
  rdCan : s.rd.isSome = true → s.ws.canRead = true

theorem coup_init (max : Nat) : Coup max {} {} { max := max } [] where
  max := rfl
  ledMem := fun _ h => nomatch h
  ledAll := fun _ h => nomatch h
  stk := rfl
  spec := fun _ h => nomatch h
  errs := fun _ h => nomatch h
  hl := fun _ => rfl
  last := Or.inl rfl
  subF := rfl
  subM := fun _ h => nomatch h
  exp := fun _ => rfl
  rep := fun _ => Nat.le_refl _
  inb := rfl
  rdq := fun _ _ => ⟨rfl, rfl⟩
  heldOk := fun _ h => nomatch h
  win := rfl
  chain := fun _ h => nomatch h
  rdr1 := rfl
  rdr2 := fun _ h => nomatch h
  rdr3 := fun _ _ h => nomatch h
  rdr4 := fun _ => ⟨rfl, rfl⟩
  rdr5 := fun _ _ h => nomatch h
  rdCan := fun h => nomatch h

abbrev Calm (st : List Task) : Prop := ∀ t ∈ st, special t = false

theorem Calm.head {st : List Task} (h : Calm st) {t : Task} {rest : List Task} (e : st = t :: rest) : special t = false :=
  h t (e ▸ List.mem_cons_self ..)

theorem Calm.cons {t : Task} {st : List Task} (ht : special t = false) (h : Calm st) : Calm (t :: st) := by
  intro t' ht'
  rcases List.mem_cons.1 ht' with rfl | h1
  · exact ht
  · exact h t' h1

theorem Calm.append {a b : List Task} (ha : Calm a) (hb : Calm b) : Calm (a ++ b) :=
  fun t ht => (List.mem_append.1 ht).elim (ha t) (hb t)

theorem errs_cons {t : Task} {st : List Task} {P : Prop} (ht : ∀ cb, t ≠ .invoke cb .err false)
    (h : ∀ cb, Task.invoke cb .err false ∈ st → P) : ∀ cb, Task.invoke cb .err false ∈ t :: st → P :=
  fun cb hc => (List.mem_cons.1 hc).elim (fun e => absurd e.symm (ht cb)) (h cb)

theorem pendW_calm {s : St} {o : Ob} {last : StreamState} (h : Calm s.stack) : pendW s o last = [] := by
  unfold pendW
  split
  · rename_i hst; exact absurd (h.head hst) (by simp [special])
  · rename_i hst; exact absurd (h.head hst) (by simp [special])
  · rfl

theorem pendW_invoke {s : St} {cb : CbId} {r : Res} {rest : List Task} {o : Ob} {last : StreamState}
    (hst : s.stack = .invoke cb r true :: rest) :
    pendW s o last = enterPush (kindOf o cb) last (stOf s.ws) (resOf r) (if kindOf o cb == .read then o.cur else none) := by
  unfold pendW
  rw [hst]

theorem pendW_ctl {s : St} {rest : List Task} {o : Ob} {last : StreamState} (hst : s.stack = .ctl :: rest) :
    pendW s o last =
      (replyFor last ⟨true, 0, (o.cur.getD default).op, false, (o.cur.getD default).payload⟩).toList := by
  unfold pendW
  rw [hst]

theorem pendW_write {s : St} {cb : CbId} {r : Res} {rest : List Task} {o : Ob} {last : StreamState}
    (hst : s.stack = .invoke cb r false :: rest) : pendW s o last = [] := by
  unfold pendW
  rw [hst]

theorem cur_of_calm {s : St} {o : Ob} {m : MS} (hw : Window s o m) (h : Calm s.stack) : o.cur = none := by
  unfold Window at hw
  split at hw
  · rename_i hst; exact absurd (h.head hst) (by simp [special])
  · rename_i hst; exact absurd (h.head hst) (by simp [special])
  · exact hw.1
  · exact hw

theorem window_calm {s : St} {o : Ob} {m : MS} (h : Calm s.stack) (hc : o.cur = none) : Window s o m := by
  unfold Window
  split
  · rename_i hst; exact absurd (h.head hst) (by simp [special])
  · rename_i hst; exact absurd (h.head hst) (by simp [special])
  · rename_i cb r rest hst
    have := h.head hst
    simp only [special, Bool.and_eq_false_iff, bne_eq_false_iff_eq] at this
    refine ⟨hc, ?_, ?_, ?_⟩ <;> rcases this with rfl | rfl <;> simp
  · exact hc

theorem windowTop_of_not_special {st : List Task} (h : ∀ t rest, st = t :: rest → special t = false)
    (hr : ∀ rest, st ≠ .ret :: rest) : windowTop st = false := by
  unfold windowTop
  split
  · rename_i rest; exact absurd rfl (hr rest)
  · rename_i cb r rest; exact absurd (h _ _ rfl) (by simp [special])
  · rename_i rest; exact absurd (h _ _ rfl) (by simp [special])
  · rfl

variable {max : Nat} {s : St} {o : Ob} {m : MS} {x : List CFrame}

theorem Coup.calm_rest (h : Coup max s o m x) {t : Task} {rest : List Task} (hst : s.stack = t :: rest) : Calm rest :=
  fun t' ht' => h.spec t' (by rw [hst]; exact ht')

theorem Coup.calm (h : Coup max s o m x) {t : Task} {rest : List Task} (hst : s.stack = t :: rest)
    (ht : special t = false) : Calm s.stack :=
  hst ▸ (h.calm_rest hst).cons ht

theorem Coup.of_calm (h : Coup max s o m x) (hns : Calm s.stack) :
    o.cur = none ∧ (m.healthy = true → m.expect = (o.sub.drop o.reported).map (·.want)) :=
  ⟨cur_of_calm h.win hns, fun hh => by have := h.exp hh; rwa [pendW_calm hns, List.append_nil] at this⟩

theorem Coup.last_eq (h : Coup max s o m x) (hw : windowTop s.stack = false) : m.last = stOf s.ws := by
  rcases h.last with h1 | h1
  · exact h1
  · rw [hw] at h1; cases h1

theorem Coup.stk_pop (h : Coup max s o m x) {t : Task} {rest : List Task} (hst : s.stack = t :: rest)
    (hsh : shapeT t = none) : m.stack.map shapeF = rest.filterMap shapeT := by
  have := h.stk
  rwa [hst, List.filterMap_cons, hsh] at this

theorem Coup.stk_top (h : Coup max s o m x) {t : Task} {rest : List Task} {sh : Shape} (hst : s.stack = t :: rest)
    (hsh : shapeT t = some sh) : ∃ f r, m.stack = f :: r ∧ shapeF f = sh ∧ r.map shapeF = rest.filterMap shapeT := by
  have := h.stk
  rw [hst, List.filterMap_cons, hsh] at this
  cases hm : m.stack with
  | nil => rw [hm] at this; cases this
  | cons f r =>
    rw [hm, List.map_cons, List.cons.injEq] at this
    exact ⟨f, r, rfl, this.1, this.2⟩

theorem shapeF_inv {f : Sonic.Spec.WsAsync.Frame} {sh : Shape} (h : shapeF f = sh) :
    match sh with
    | .call => ∃ cb, f = .call (some cb)
    | .poll => f = .call none
    | .handler cb => f = .handler cb := by
  subst h
  cases f with
  | call c => cases c with
    | none => rfl
    | some cb => exact ⟨cb, rfl⟩
  | handler c => rfl

theorem Coup.cont_cbs (h : Coup max s o m x) {k : Cont} (hsub : ∀ p ∈ contK k, p ∈ locs s) :
    ∀ p ∈ contK k, compat (kindOf o p.1) p.2 ∧
      (p.2.isRd = true → ∃ b, o.reader = some (p.1, b) ∧ (p.2 = .f → b = false) ∧ (p.2 = .m → b = true)) :=
  fun p hp => ⟨h.chain p (hsub p hp), h.rdr2 p (hsub p hp)⟩

theorem Coup.reader (h : Coup max s o m x) {cb : CbId} {rk : RKind} (hp : (cb, rk.lk) ∈ locs s) :
    ∃ b, o.reader = some (cb, b) ∧ (rk.lk = .f → b = false) ∧ (rk.lk = .m → b = true) :=
  h.rdr2 _ hp (by cases rk <;> rfl)

/-- Not `vis`: that is what flush code leaves alone (it keeps `rd`, `healthy` and `wire` but grows the control stack); the
changes compared through `seen` keep the stack and touch the reactors, `healthy` and the transport's progress. -/
def seen (s : St) := (s.ws, s.submitted, s.started, s.log, s.readBusy, s.inbox, s.stack)

theorem coup_same {s1 : St} (h : Coup max s o m x) (e : seen s1 = seen s) (hlocs : ∀ p ∈ locs s1, p ∈ locs s)
    (hrd : s1.rd.isSome = true → s.ws.canRead = true) (hhl : m.healthy = true → s1.healthy = true) : Coup max s1 o m x := by
  simp only [seen, Prod.mk.injEq] at e
  obtain ⟨e1, e2, e3, e4, e5, e6, e8⟩ := e
  have hpw : ∀ l, pendW s1 o l = pendW s o l := fun l => by simp only [pendW, e8, e1]
  exact {
    max := h.max
    ledMem := by rw [e3, e4]; exact h.ledMem
    ledAll := by rw [e3]; exact h.ledAll
    stk := by rw [e8]; exact h.stk
    spec := by rw [e8]; exact h.spec
    errs := by rw [e8]; exact h.errs
    hl := hhl
    last := by rw [e8, e1]; exact h.last
    subF := by rw [e2]; exact h.subF
    subM := h.subM
    exp := by rw [hpw]; exact h.exp
    rep := h.rep
    inb := by rw [e6]; exact h.inb
    rdq := by rw [e1]; exact h.rdq
    heldOk := h.heldOk
    win := by have := h.win; unfold Window at this ⊢; rwa [e8, e1]
    chain := fun p hp => h.chain p (hlocs p hp)
    rdr1 := by rw [e5]; exact h.rdr1
    rdr2 := fun p hp => h.rdr2 p (hlocs p hp)
    rdr3 := h.rdr3
    rdr4 := h.rdr4
    rdr5 := by rw [e3]; exact h.rdr5
    rdCan := by rw [e1]; exact hrd }

theorem Coup.unhealthy (h : Coup max s o m x) : Coup max s o { m with healthy := false } x :=
  { h with errs := fun _ _ => rfl, hl := nofun, exp := nofun, rep := nofun }

theorem coup_pop_mon {t : Task} {rest : List Task} (h : Coup max s o m x) (hst : s.stack = t :: rest)
    (ht : special t = false) {r : List Sonic.Spec.WsAsync.Frame} (hr : r.map shapeF = rest.filterMap shapeT)
    {cbs : List Cb} (hled : LedEq cbs m.cbs) :
    Coup max { s with stack := rest } o { m with stack := r, last := stOf s.ws, cbs := cbs } x := by
  have hns := h.calm_rest hst
  obtain ⟨hcur, hexp⟩ := h.of_calm (h.calm hst ht)
  exact { h with
    ledMem := fun c hc => by
      obtain ⟨c0, hc0, e1, e2, e3⟩ := hled.1 c hc
      rw [e1, e2, e3]
      exact h.ledMem c0 hc0
    ledAll := fun cb hcb => by
      obtain ⟨c0, hc0, e⟩ := h.ledAll cb hcb
      obtain ⟨c, hc, e'⟩ := hled.2 c0 hc0
      exact ⟨c, hc, e'.trans e⟩
    stk := hr
    spec := fun t' ht' => hns t' (List.mem_of_mem_tail ht')
    errs := fun cb hc => h.errs cb (by rw [hst]; exact List.mem_cons_of_mem _ hc)
    last := Or.inl rfl
    exp := fun hh => by rw [pendW_calm (s := { s with stack := rest }) hns, List.append_nil]; exact hexp hh
    win := window_calm hns hcur
    chain := fun p hp => h.chain p ((locs_cons hst).2 (Or.inr hp))
    rdr2 := fun p hp => h.rdr2 p ((locs_cons hst).2 (Or.inr hp)) }

theorem coup_pop {t : Task} {rest : List Task} (h : Coup max s o m x) (hst : s.stack = t :: rest)
    (ht : special t = false) (hsh : shapeT t = none) : Coup max { s with stack := rest } o m x := by
  have hl : m.last = stOf s.ws := h.last_eq (windowTop_of_not_special (fun _ _ e => (h.calm hst ht).head e)
    (fun _ e => by rw [hst] at e; cases e; cases hsh))
  have := coup_pop_mon h hst ht (h.stk_pop hst hsh) (LedEq.refl _)
  rwa [← hl] at this

theorem quiet_shape {ok : Bool} {t : Task} (h : quietT ok t) : shapeT t = none := by
  cases t <;> first | rfl | exact absurd h (by simp [quietT])

theorem quiet_special {ok : Bool} {t : Task} (h : quietT ok t) : special t = false := by
  cases t with
  | invoke cb r isRead =>
    cases isRead with
    | true => exact absurd h (by simp [quietT])
    | false =>
      simp only [quietT] at h
      subst h
      cases ok <;> rfl
  | resume => rfl
  | _ => exact absurd h (by simp [quietT])

theorem filterMap_shape_none : ∀ (new : List Task), (∀ t ∈ new, shapeT t = none) → new.filterMap shapeT = []
  | [], _ => rfl
  | t :: r, h => by
    rw [List.filterMap_cons, h t (List.mem_cons_self ..)]
    exact filterMap_shape_none r (fun y hy => h y (List.mem_cons_of_mem _ hy))

/-- **Flush code keeps the coupling**: it schedules completions (of the flush's result) on top of a control stack that
holds no callback entry, and hands the callbacks it held to where they are invoked from. -/
theorem coup_fl {s2 : St} {ok : Bool} {k : Cont} (h : Coup max s o m x) (hf : Fl ok s s2 k) (hns : Calm s.stack)
    (hlast : m.last = stOf s.ws ∨ s2.stack = s.stack)
    (hok : ok = false → m.healthy = false)
    (hk : ∀ p ∈ contK k, compat (kindOf o p.1) p.2 ∧
      (p.2.isRd = true → ∃ b, o.reader = some (p.1, b) ∧ (p.2 = .f → b = false) ∧ (p.2 = .m → b = true))) :
    Coup max s2 o m x := by
  obtain ⟨new, hst, hq⟩ := hf.stack
  obtain ⟨hws, hsub, hstarted, hlog, hrb, hinbox, _, _, hhealthy, hrd⟩ := hf.fields
  have hns2 : Calm s2.stack := hst ▸ Calm.append (fun t ht => quiet_special (hq t ht)) hns
  obtain ⟨hcur, hexp⟩ := h.of_calm hns
  exact {
    max := h.max
    ledMem := by rw [hstarted, hlog]; exact h.ledMem
    ledAll := by rw [hstarted]; exact h.ledAll
    stk := by
      rw [hst, List.filterMap_append, filterMap_shape_none new (fun t ht => quiet_shape (hq t ht)), List.nil_append]
      exact h.stk
    spec := fun t ht => hns2 t (List.mem_of_mem_tail ht)
    errs := fun cb hc => by
      rw [hst] at hc
      rcases List.mem_append.1 hc with h1 | h1
      · have := hq _ h1
        cases ok with
        | true => cases this
        | false => exact hok rfl
      · exact h.errs cb h1
    hl := by rw [hhealthy]; exact h.hl
    last := by
      rcases hlast with h1 | h1
      · left; rw [hws]; exact h1
      · rw [h1, hws]; exact h.last
    subF := by rw [hsub]; exact h.subF
    subM := h.subM
    exp := fun hh => by rw [pendW_calm hns2, List.append_nil]; exact hexp hh
    rep := h.rep
    inb := by rw [hinbox]; exact h.inb
    rdq := by rw [hws]; exact h.rdq
    heldOk := h.heldOk
    win := window_calm hns2 hcur
    chain := fun p hp => (hf.rdl p hp).elim (h.chain p) (fun h1 => (hk p h1).1)
    rdr1 := by rw [hrb]; exact h.rdr1
    rdr2 := fun p hp hr => (hf.rdl p hp).elim (fun h1 => h.rdr2 p h1 hr) (fun h1 => (hk p h1).2 hr)
    rdr3 := h.rdr3
    rdr4 := h.rdr4
    rdr5 := by rw [hstarted]; exact h.rdr5
    rdCan := by rw [hrd, hws]; exact h.rdCan }

open Sonic.Spec.WsAsync (started mem_setCb exists_setCb findCb_some findCb_isSome_of_mem)

theorem Coup.ledger (h : Coup max s o m x) {cb : CbId} (hs : cb ∈ s.started) :
    ∃ c, findCb m cb = some c ∧ c.done = decide (cb ∈ s.log) ∧ c.kind = kindOf o cb := by
  obtain ⟨c0, hc0, hc0id⟩ := h.ledAll cb hs
  have hsome := findCb_isSome_of_mem hc0
  rw [hc0id] at hsome
  obtain ⟨c, hfc⟩ := Option.isSome_iff_exists.1 hsome
  obtain ⟨hcm, hcid⟩ := findCb_some hfc
  obtain ⟨_, hd, hk⟩ := h.ledMem c hcm
  exact ⟨c, hfc, hcid ▸ hd, hcid ▸ hk⟩

theorem led_entered (h : Coup max s o m x) {cb : CbId} {c : Cb} (hfc : findCb m cb = some c) (hst : cb ∈ s.started)
    {m1 : MS} (e : m1.cbs = m.cbs) :
    (∀ c' ∈ (setCb m1 { c with done := true }).cbs,
      c'.id ∈ s.started ∧ c'.done = decide (c'.id ∈ s.log ++ [cb]) ∧ c'.kind = kindOf o c'.id) ∧
    (∀ cb0 ∈ s.started, ∃ c' ∈ (setCb m1 { c with done := true }).cbs, c'.id = cb0) := by
  obtain ⟨hcm, hcid⟩ := findCb_some hfc
  constructor
  · intro c' hc'
    rcases mem_setCb.1 hc' with rfl | ⟨h1, h2⟩
    · show c.id ∈ s.started ∧ true = decide (c.id ∈ s.log ++ [cb]) ∧ c.kind = kindOf o c.id
      rw [hcid]
      exact ⟨hst, by simp, hcid ▸ (h.ledMem c hcm).2.2⟩
    · obtain ⟨g1, g2, g3⟩ := h.ledMem c' (e ▸ h1)
      refine ⟨g1, ?_, g3⟩
      rw [g2]
      have : c'.id ≠ cb := fun e' => h2 (e'.trans hcid.symm)
      simp [this]
  · exact fun cb0 hcb0 => exists_setCb (e ▸ h.ledAll cb0 hcb0)

theorem enter_calm {cb : CbId} {rest : List Task} (as : List Action) (hr : Calm rest) :
    Calm (as.map Task.call ++ Task.exit cb :: rest) := by
  refine Calm.append (fun t ht => ?_) (hr.cons rfl)
  obtain ⟨a, _, rfl⟩ := List.mem_map.1 ht
  rfl

theorem enter_shape {cb : CbId} {rest : List Task} (as : List Action) :
    (as.map Task.call ++ Task.exit cb :: rest).filterMap shapeT = .handler cb :: rest.filterMap shapeT := by
  simp [List.filterMap_append, List.filterMap_map, shapeT]

theorem enter_mem_invoke {cb cb1 : CbId} {r : Res} {b : Bool} {rest : List Task} (as : List Action)
    (h : Task.invoke cb1 r b ∈ as.map Task.call ++ Task.exit cb :: rest) : Task.invoke cb1 r b ∈ rest := by
  rcases List.mem_append.1 h with h3 | h3
  · obtain ⟨a, _, e⟩ := List.mem_map.1 h3; cases e
  · rcases List.mem_cons.1 h3 with e | h4
    · cases e
    · exact h4

theorem enter_locs {cb : CbId} {rest : List Task} (as : List Action) (lg : List CbId) (rb : Bool) {p : CbId × LK}
    (hp : p ∈ locs { s with stack := as.map Task.call ++ Task.exit cb :: rest, log := lg, readBusy := rb }) :
    p ∈ locs { s with stack := rest } := by
  have hcalls : (as.map Task.call).flatMap taskK = [] := by simp [List.flatMap_map, taskK]
  simp only [mem_locs, wrK, rdK, List.flatMap_append, hcalls, List.flatMap_cons, taskK, List.nil_append] at hp ⊢
  exact hp

/-- `fr`: the frame handed over; `q`, `a`, `sy`: the monitor's account of the peer's stream after the delivery check; `hd`,
`cu`, `ma`, `rd'`: the observer's account of the read in flight (as they were for a write-side callback, cleared for a
read callback). -/
theorem coup_enter {cb : CbId} {r : Res} {isRead : Bool} {rest : List Task} {c : Cb} (as : List Action) {s1 : St}
    (hs1 : s1 = { s with stack := as.map Task.call ++ Task.exit cb :: rest, log := s.log ++ [cb],
                         readBusy := if isRead then false else s.readBusy })
    (h : Coup max s o m []) (hstk : s.stack = .invoke cb r isRead :: rest) (hfc : findCb m cb = some c) (hst : cb ∈ s.started)
    {q : List CFrame} {a : Bytes} {sy : Bool} {fr : Option CFrame}
    (hpw : pendW s o m.last = enterPush c.kind m.last (stOf s.ws) (resOf r) fr)
    {hd : List CFrame} {cu : Option CFrame} {ma : Bytes} {rd' : Option (CbId × Bool)} (hcu : cu = none)
    (hhd : ∀ g ∈ hd, controlOp g.op = false ∧ g.fin = false)
    (hq : sy = true → s.ws ≠ .terminated → q = hd ++ cu.toList ++ [] ++ o.inboxC ++ o.net ∧ a = ma)
    (hr1 : (if isRead then false else s.readBusy) = rd'.isSome)
    (hr2 : ∀ p ∈ locs s1, p.2.isRd = true → ∃ b, rd' = some (p.1, b) ∧ (p.2 = .f → b = false) ∧ (p.2 = .m → b = true))
    (hr3 : ∀ cb b, rd' = some (cb, b) → kindOf o cb = (if b then .readMsg else .read))
    (hr4 : (∀ cb, rd' ≠ some (cb, true)) → hd = [] ∧ ma = [])
    (hr5 : ∀ cb b, rd' = some (cb, b) → cb ∈ s.started) :
    Coup max s1 { o with held := hd, cur := cu, macc := ma, reader := rd' }
      (entered { m with inq := q, macc := a, synced := sy } c cb (resOf r) fr (stOf s.ws)) [] := by
  subst hs1 hcu
  have hns' := enter_calm (cb := cb) as (h.calm_rest hstk)
  have hhl : ∀ {b : Bool}, (m.healthy && b) = true → m.healthy = true := fun hh => (Bool.and_eq_true_iff.1 hh).1
  obtain ⟨hl1, hl2⟩ := led_entered h hfc hst (m1 := addW { m with inq := q, macc := a, synced := sy }
    (enterPush c.kind m.last (stOf s.ws) (resOf r) fr)) rfl
  exact { h with
    ledMem := hl1
    ledAll := hl2
    stk := by
      show (Sonic.Spec.WsAsync.Frame.handler cb :: m.stack).map shapeF = _
      rw [enter_shape, List.map_cons, h.stk_pop hstk rfl]
      rfl
    spec := fun t ht => hns' t (List.mem_of_mem_tail ht)
    errs := fun cb1 hc1 => by
      show (m.healthy && _) = false
      rw [h.errs cb1 (hstk ▸ List.mem_cons_of_mem _ (enter_mem_invoke _ hc1))]
      rfl
    hl := fun hh => h.hl (hhl hh)
    last := Or.inl rfl
    exp := fun hh => by
      have he := h.exp (hhl hh)
      rw [hpw] at he
      show (m.expect ++ enterPush c.kind m.last (stOf s.ws) (resOf r) fr) ++ pendW _ _ _ = _
      rw [pendW_calm hns', List.append_nil]
      exact he
    rep := fun hh => h.rep (hhl hh)
    rdq := hq
    heldOk := hhd
    win := window_calm hns' rfl
    chain := fun p hp => h.chain p ((locs_cons hstk).2 (Or.inr (enter_locs _ _ _ hp)))
    rdr1 := hr1
    rdr2 := hr2
    rdr3 := hr3
    rdr4 := hr4
    rdr5 := hr5 }

theorem Coup.reader_isRead (h : Coup max s o m x) {cb : CbId} {b : Bool} (hr : o.reader = some (cb, b)) :
    (kindOf o cb).isRead = true := by
  rw [h.rdr3 cb b hr]
  cases b <;> rfl

theorem enterPush_fail {k : Kind} {last st : StreamState} {r : Res} (hr : r = .eof ∨ r = .err) {f : Option CFrame} :
    enterPush k last st (resOf r) f = [] := by
  rcases hr with rfl | rfl <;> cases f <;> simp [enterPush, failW, resOf]

theorem coup_rinvoke {cb : CbId} {b : Bool} {r : Res} {c' : Option CFrame} (rd' : Option (CbId × RKind)) (ws' : WsState)
    (hl' : Bool) (h : Coup max s o m []) (hns : Calm s.stack) (hrdr : o.reader = some (cb, b)) (hr : r = .eof ∨ r = .err)
    (hrd : rd' = none) (hws : ws' = .terminated ∨ (ws' = s.ws ∧ r = .err ∧ c' = none)) (hhl : m.healthy = true → hl' = true) :
    Coup max (push { s with rd := rd', ws := ws', healthy := hl' } [.invoke cb r true]) { o with cur := c' } m [] := by
  subst hrd
  obtain ⟨hcur, hexp⟩ := h.of_calm hns
  have hloc : ∀ p ∈ locs (push { s with rd := none, ws := ws', healthy := hl' } [.invoke cb r true]), p = (cb, .r) ∨ p ∈ locs s :=
    fun p hp => (locs_push_one.1 hp).imp List.mem_singleton.1 (locs_of_rd_none (s := s))
  exact { h with
    spec := hns
    errs := errs_cons nofun h.errs
    hl := hhl
    last := Or.inr rfl
    exp := fun hh => by
      rw [pendW_invoke rfl, enterPush_fail hr, List.append_nil]
      exact hexp hh
    rdq := fun hsy hne => by
      rcases hws with h1 | ⟨h1, _, rfl⟩
      · exact absurd h1 hne
      · have := h.rdq hsy (h1 ▸ hne)
        rwa [hcur] at this
    win := by
      refine ⟨by rcases hr with rfl | rfl <;> simp, fun he => ?_, fun hk => ⟨?_, fun h1 => ?_⟩, fun _ h1 => ?_⟩
      · rcases hws with h1 | ⟨_, h2, _⟩
        · exact h1
        · rw [he] at h2; cases h2
      · have hk3 := h.rdr3 cb b hrdr
        cases b with
        | false => exact (h.rdr4 (fun cb' e => by rw [hrdr] at e; cases e)).1
        | true => rw [show kindOf o cb = .read from hk] at hk3; cases hk3
      · rcases hr with rfl | rfl <;> simp at h1
      · rcases hr with rfl | rfl <;> cases h1
    chain := fun p hp => (hloc p hp).elim (fun e => e ▸ h.reader_isRead hrdr) (h.chain p)
    rdr2 := fun p hp hrp => (hloc p hp).elim (fun e => e ▸ ⟨b, hrdr, nofun, nofun⟩) (fun h1 => h.rdr2 p h1 hrp)
    rdCan := nofun }

theorem kindOf_cons_self (o : Ob) (cb : CbId) (k : Kind) (rd : Option (CbId × Bool)) :
    kindOf { o with kinds := (cb, k) :: o.kinds, reader := rd } cb = k := by
  simp [kindOf, List.lookup]

theorem kindOf_cons_ne (o : Ob) {cb cb' : CbId} (k : Kind) (rd : Option (CbId × Bool)) (hne : cb' ≠ cb) :
    kindOf { o with kinds := (cb, k) :: o.kinds, reader := rd } cb' = kindOf o cb' := by
  have : (cb' == cb) = false := by simpa using hne
  simp [kindOf, List.lookup, this]

theorem Coup.fresh (h : Coup max s o m x) {cb : CbId} (hfresh : cb ∉ s.started) : findCb m cb = none := by
  unfold findCb
  rw [List.find?_eq_none]
  intro c hc hid
  exact hfresh ((by simpa using hid : c.id = cb) ▸ (h.ledMem c hc).1)

theorem coup_start {cb : CbId} (k : Kind) (hI : Inv s) (h : Coup max s o m []) (hns : Calm s.stack)
    (hlast : m.last = stOf s.ws) (hfresh : cb ∉ s.started) (hrb : k.isRead = true → s.readBusy = false) :
    Coup max { s with stack := .ret :: s.stack, started := s.started ++ [cb],
                      readBusy := if k.isRead then true else s.readBusy }
      { o with kinds := (cb, k) :: o.kinds, reader := if k.isRead then some (cb, k == .readMsg) else o.reader }
      (started m cb k) [] := by
  obtain ⟨hcur, hexp⟩ := h.of_calm hns
  have hkind : ∀ cb', cb' ∈ s.started → ∀ rd, kindOf { o with kinds := (cb, k) :: o.kinds, reader := rd } cb' = kindOf o cb' :=
    fun cb' hc rd => kindOf_cons_ne o k rd (fun e => hfresh (e ▸ hc))
  have hnord : k.isRead = true → o.reader = none := fun hk => by
    have := h.rdr1
    rw [hrb hk] at this
    cases hr : o.reader with
    | none => rfl
    | some p => rw [hr] at this; cases this
  exact { h with
    ledMem := fun c hc => by
      rcases mem_setCb.1 hc with rfl | ⟨h1, _⟩
      · refine ⟨List.mem_append_right _ (List.mem_singleton.2 rfl), ?_, (kindOf_cons_self o cb k _).symm⟩
        exact (decide_eq_false (fun hl => hfresh (log_started hI cb hl))).symm
      · obtain ⟨g1, g2, g3⟩ := h.ledMem c h1
        exact ⟨List.mem_append_left _ g1, g2, by rw [hkind _ g1]; exact g3⟩
    ledAll := fun cb0 hcb0 => by
      rcases List.mem_append.1 hcb0 with h1 | h1
      · exact exists_setCb (h.ledAll cb0 h1)
      · rw [List.mem_singleton.1 h1]
        exact ⟨_, mem_setCb.2 (Or.inl rfl), rfl⟩
    stk := by
      show (Sonic.Spec.WsAsync.Frame.call (some cb) :: m.stack).map shapeF = (Task.ret :: s.stack).filterMap shapeT
      rw [List.map_cons, List.filterMap_cons, h.stk]
      rfl
    spec := hns
    errs := errs_cons nofun h.errs
    last := Or.inl hlast
    exp := fun hh => by
      rw [show pendW _ _ _ = [] from rfl, List.append_nil]
      exact hexp hh
    win := hcur
    chain := fun p hp => by
      rw [hkind _ (locs_started hI p hp)]
      exact h.chain p hp
    rdr1 := by
      show (if k.isRead then true else s.readBusy) = Option.isSome (if k.isRead then some (cb, k == .readMsg) else o.reader)
      cases k.isRead with
      | true => rfl
      | false => exact h.rdr1
    rdr2 := fun p hp hr => by
      obtain ⟨b, hb, g⟩ := h.rdr2 p hp hr
      cases hk : k.isRead with
      | true => rw [hnord hk] at hb; cases hb
      | false => exact ⟨b, hb, g⟩
    rdr3 := fun cb1 b hb => by
      cases hk : k.isRead with
      | true =>
        simp only [hk, if_true, Option.some.injEq, Prod.mk.injEq] at hb
        obtain ⟨rfl, rfl⟩ := hb
        rw [kindOf_cons_self]
        cases k <;> first | rfl | cases hk
      | false =>
        simp only [hk, Bool.false_eq_true, if_false] at hb
        rw [hkind _ (h.rdr5 cb1 b hb)]
        exact h.rdr3 cb1 b hb
    rdr4 := fun hr => h.rdr4 fun cb1 e => by
      cases hk : k.isRead with
      | true => rw [hnord hk] at e; cases e
      | false => exact hr cb1 (by simp only [hk, Bool.false_eq_true, if_false]; exact e)
    rdr5 := fun cb1 b hb => by
      cases hk : k.isRead with
      | true =>
        simp only [hk, if_true, Option.some.injEq, Prod.mk.injEq] at hb
        exact hb.1 ▸ List.mem_append_right _ (List.mem_singleton.2 rfl)
      | false =>
        simp only [hk, Bool.false_eq_true, if_false] at hb
        exact List.mem_append_left _ (h.rdr5 cb1 b hb) }

/-- A write-side call that is refused (or whose message is too big) completes inside the call. -/
theorem coup_inline {cb : CbId} {r : Res} (h : Coup max s o m []) (hns : Calm s.stack) (hlast : m.last = stOf s.ws)
    (hr : r = .cancelled ∨ r = .eof ∨ r = .tooBig) (hk : (kindOf o cb).isRead = false)
    (hret : ∃ c, findCb m cb = some c ∧ c.returned = false) (hla : r = .cancelled ∨ r = .eof → m.last ≠ .active) :
    Coup max (push s [.invoke cb r false]) o m [] := by
  obtain ⟨hcur, hexp⟩ := h.of_calm hns
  have hloc : ∀ p ∈ locs (push s [.invoke cb r false]), p = (cb, .w) ∨ p ∈ locs s :=
    fun p hp => (locs_push_one.1 hp).imp_left List.mem_singleton.1
  exact { h with
    spec := hns
    errs := errs_cons (fun _ e => by cases e; rcases hr with h2 | h2 | h2 <;> cases h2) h.errs
    last := Or.inl hlast
    exp := fun hh => by
      rw [show pendW (push s [.invoke cb r false]) o m.last = [] from rfl, List.append_nil]
      exact hexp hh
    win := ⟨hcur, by rcases hr with rfl | rfl | rfl <;> simp, fun _ => hret, hla⟩
    chain := fun p hp => (hloc p hp).elim (fun e => e ▸ hk) (h.chain p)
    rdr2 := fun p hp hrp => (hloc p hp).elim (fun e => by rw [e] at hrp; cases hrp) (fun h1 => h.rdr2 p h1 hrp) }

/-- `prepareWrite` inside a call (possibly with `AsyncClose`'s change of state): the frame is queued and the monitor notes
the obligation at the same event. -/
theorem coup_prepare {rest : List Task} (ws' : WsState) (y : Sub) (h : Coup max s o m [])
    (hst : s.stack = .ret :: rest) (hws : ws' = s.ws ∨ (s.ws = .active ∧ ws' = .closedByUs))
    (hm : y.want.matches y.wf = true) :
    Coup max (prepare { s with ws := ws' } y.frame) { o with sub := o.sub ++ [y] }
      { m with expect := m.expect ++ [y.want] } [] := by
  have hns := h.calm hst rfl
  obtain ⟨hcur, hexp⟩ := h.of_calm hns
  have hcalm : Calm (prepare { s with ws := ws' } y.frame).stack := hns
  exact { h with
    last := Or.inr (by show windowTop s.stack = true; rw [hst]; rfl)
    subF := by
      show (o.sub ++ [y]).map (·.frame) = s.submitted ++ [y.frame]
      rw [List.map_append, h.subF]
      rfl
    subM := fun z hz => by
      rcases List.mem_append.1 hz with h1 | h1
      · exact h.subM z h1
      · rw [List.mem_singleton.1 h1]; exact hm
    exp := fun hh => by
      rw [pendW_calm hcalm, List.append_nil]
      show m.expect ++ [y.want] = ((o.sub ++ [y]).drop o.reported).map (·.want)
      rw [List.drop_append_of_le_length (h.rep hh), List.map_append, hexp hh]
      rfl
    rep := fun hh => by
      show o.reported ≤ (o.sub ++ [y]).length
      have := h.rep hh
      simp only [List.length_append]; omega
    rdq := fun hsy hn => h.rdq hsy (by
      rcases hws with h1 | ⟨h1, _⟩
      · exact h1 ▸ hn
      · rw [h1]; nofun)
    win := window_calm hcalm hcur
    rdCan := fun hrd => by
      rcases hws with h1 | ⟨_, h1⟩
      · show ws'.canRead = true; rw [h1]; exact h.rdCan hrd
      · show ws'.canRead = true; rw [h1]; rfl }

theorem matches_exact (fin : Bool) (op : Nat) (p : Bytes) : (Want.exact fin op p).matches (wfOf fin op p) = true := by
  simp [Want.matches, wfOf]

theorem matches_close (c : Nat) (rest : Bytes) (h : rest.length ≤ 123) :
    (Want.closeCode c).matches (wfOf true 8 (u16 c ++ rest)) = true := by
  simp [Want.matches, wfOf, u16, List.take_take]
  omega

theorem conc_frame (c : Option Call) (g : Option CFrame) (f : OutFrame) : (conc c g f).frame = f := by
  unfold conc
  split <;> rfl

theorem grow_app {s s' : St} {fs : List OutFrame} (o : Ob) (c : Option Call) (g : Option CFrame)
    (e : s'.submitted = s.submitted ++ fs) : grow s s' o c g = { o with sub := o.sub ++ fs.map (conc c g) } := by
  simp [grow, e]

theorem coup_take {g : CFrame} {restC net' : List CFrame} (rd' : Option (CbId × RKind))
    (h : Coup max s o m []) (hq : o.inboxC ++ o.net = g :: restC ++ net') (hrd : rd' = none ∨ rd' = s.rd) :
    Coup max { s with rd := rd', inbox := restC.map absFrame } { o with inboxC := restC, net := net' } m [g] := by
  have hlocs : ∀ p ∈ locs { s with rd := rd', inbox := restC.map absFrame }, p ∈ locs s := by
    intro p hp
    rcases hrd with rfl | rfl
    · exact locs_of_rd_none (s := s) hp
    · exact hp
  exact { h with
    inb := rfl
    rdq := fun hsy hne => by
      obtain ⟨h1, h2⟩ := h.rdq hsy hne
      refine ⟨?_, h2⟩
      show m.inq = o.held ++ o.cur.toList ++ [g] ++ restC ++ net'
      rw [h1]
      simp only [List.append_nil, List.append_assoc]
      rw [hq]
      simp
    chain := fun p hp => h.chain p (hlocs p hp)
    rdr2 := fun p hp => h.rdr2 p (hlocs p hp)
    rdCan := fun hr => by
      rcases hrd with rfl | rfl
      · cases hr
      · exact h.rdCan hr }

theorem sched_shape {cb : CbId} {tops : List Task}
    (h : (∃ r, tops = [.invoke cb r true]) ∨ (∃ rk, tops = [.ctl, .again cb rk]) ∨ ∃ rk, tops = [.again cb rk]) :
    tops.filterMap shapeT = [] ∧ Calm tops.tail ∧ ∀ cb1, Task.invoke cb1 .err false ∉ tops := by
  rcases h with ⟨r, rfl⟩ | ⟨rk, rfl⟩ | ⟨rk, rfl⟩
  · exact ⟨rfl, (fun _ h => nomatch h), fun cb1 hc => by cases List.mem_singleton.1 hc⟩
  · refine ⟨rfl, Calm.cons rfl (fun _ h => nomatch h), fun cb1 hc => ?_⟩
    rcases List.mem_cons.1 hc with e | h1
    · cases e
    · cases List.mem_singleton.1 h1
  · exact ⟨rfl, (fun _ h => nomatch h), fun cb1 hc => by cases List.mem_singleton.1 hc⟩

/-- The read path has handled the frame `g` it took: the frames it queued are `news`, the tasks it scheduled are `tops`;
`g` is kept as a fragment (`held'`) or is the frame the next callback is about (`cur'`). -/
theorem coup_onframe {s0 s' : St} {o0 : Ob} {g : CFrame} {cb : CbId} {lk : LK}
    (h0 : Coup max s0 o0 m [g]) (hns : Calm s0.stack)
    (news : List OutFrame) (tops : List Task) (held' : List CFrame) (cur' : Option CFrame)
    (e : (s'.submitted, s'.stack, s'.started, s'.log, s'.readBusy, s'.inbox, s'.healthy, s'.rd) =
      (s0.submitted ++ news, tops ++ s0.stack, s0.started, s0.log, s0.readBusy, s0.inbox, s0.healthy, s0.rd))
    (hrd0 : s0.rd = none)
    (hlocs : ∀ p ∈ locs s', p ∈ locs s0 ∨ p = (cb, .r) ∨ p = (cb, lk))
    (hkind : compat (kindOf o0 cb) lk)
    (hreader : ∃ b, o0.reader = some (cb, b) ∧ (lk = .f → b = false) ∧ (lk = .m → b = true))
    (hmat : ∀ fr ∈ news, (conc none (some g) fr).want.matches (conc none (some g) fr).wf = true)
    (hws : s0.ws ≠ .terminated)
    (htops : (∃ r, tops = [.invoke cb r true]) ∨ (∃ rk, tops = [.ctl, .again cb rk]) ∨ ∃ rk, tops = [.again cb rk])
    (hheld : held' ++ cur'.toList = o0.held ++ [g])
    (hheldOk : ∀ x ∈ held', controlOp x.op = false ∧ x.fin = false)
    (hrdr4 : (∀ cb', o0.reader ≠ some (cb', true)) → held' = [])
    (hlast' : m.last = stOf s'.ws ∨ windowTop s'.stack = true)
    (hpend : pendW s' { o0 with sub := o0.sub ++ news.map (conc none (some g)), held := held', cur := cur' } m.last =
      news.map (fun fr => (conc none (some g) fr).want))
    (hwin : Window s' { o0 with sub := o0.sub ++ news.map (conc none (some g)), held := held', cur := cur' } m) :
    Coup max s' { o0 with sub := o0.sub ++ news.map (conc none (some g)), held := held', cur := cur' } m [] := by
  simp only [Prod.mk.injEq] at e
  obtain ⟨e_sub, e_stack, e_started, e_log, e_rb, e_inbox, e_healthy, e_rd⟩ := e
  obtain ⟨htopsShape, htail, herrs⟩ := sched_shape htops
  obtain ⟨hcur0, hexp0⟩ := h0.of_calm hns
  obtain ⟨b, hb, hbf, hbm⟩ := hreader
  exact {
    max := h0.max
    ledMem := by rw [e_started, e_log]; exact h0.ledMem
    ledAll := by rw [e_started]; exact h0.ledAll
    stk := by rw [e_stack, List.filterMap_append, htopsShape, List.nil_append]; exact h0.stk
    spec := fun t ht => by
      rw [e_stack] at ht
      cases tops with
      | nil => exact hns t (List.mem_of_mem_tail ht)
      | cons t0 r => exact (List.mem_append.1 ht).elim (htail t) (hns t)
    errs := fun cb1 hc1 => by
      rw [e_stack] at hc1
      exact (List.mem_append.1 hc1).elim (fun h1 => absurd h1 (herrs cb1)) (h0.errs cb1)
    hl := by rw [e_healthy]; exact h0.hl
    last := hlast'
    subF := by
      show (o0.sub ++ news.map (conc none (some g))).map (·.frame) = s'.submitted
      rw [List.map_append, h0.subF, e_sub, List.map_map]
      congr 1
      exact (List.map_congr_left fun fr _ => conc_frame _ _ fr).trans (List.map_id _)
    subM := fun y hy => by
      rcases List.mem_append.1 hy with h1 | h1
      · exact h0.subM y h1
      · obtain ⟨fr, hfr, rfl⟩ := List.mem_map.1 h1
        exact hmat fr hfr
    exp := fun hh => by
      rw [hpend]
      show _ = ((o0.sub ++ news.map (conc none (some g))).drop o0.reported).map (·.want)
      rw [List.drop_append_of_le_length (h0.rep hh), List.map_append, hexp0 hh, List.map_map]
      rfl
    rep := fun hh => by
      show o0.reported ≤ (o0.sub ++ news.map (conc none (some g))).length
      have := h0.rep hh
      simp only [List.length_append]; omega
    inb := by rw [e_inbox]; exact h0.inb
    rdq := fun hsy _ => by
      obtain ⟨h1, h2⟩ := h0.rdq hsy hws
      refine ⟨?_, h2⟩
      show m.inq = held' ++ cur'.toList ++ [] ++ o0.inboxC ++ o0.net
      rw [h1, hcur0, hheld]
      simp
    heldOk := hheldOk
    win := hwin
    chain := fun p hp => by
      rcases hlocs p hp with h1 | rfl | rfl
      · exact h0.chain p h1
      · exact h0.reader_isRead hb
      · exact hkind
    rdr1 := by rw [e_rb]; exact h0.rdr1
    rdr2 := fun p hp hrp => by
      rcases hlocs p hp with h1 | rfl | rfl
      · exact h0.rdr2 p h1 hrp
      · exact ⟨b, hb, nofun, nofun⟩
      · exact ⟨b, hb, hbf, hbm⟩
    rdr3 := h0.rdr3
    rdr4 := fun hr => ⟨hrdr4 hr, (h0.rdr4 hr).2⟩
    rdr5 := by rw [e_started]; exact h0.rdr5
    rdCan := fun hr => by rw [e_rd, hrd0] at hr; cases hr }

end Sonic.Model.WsAsyncObs
