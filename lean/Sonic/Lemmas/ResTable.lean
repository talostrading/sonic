/-
Lemmas about the descriptor-table model `Sonic.Model.Resources` (property C13): the invariant behind
"no Close ever closes a descriptor the object does not own at that moment", for arbitrary interleavings of object
creation (with any numbers the kernel may hand out) and repeated Close; and the lowest-free allocation policy.
-/
import Sonic.Model.Resources

namespace Sonic.Model.Resources

theorem lowestFreeAux_spec (used : List Nat) : ∀ fuel n, (∀ i, i < n → used.contains i = true) →
    (∀ i, i < lowestFreeAux used fuel n → used.contains i = true) ∧ n ≤ lowestFreeAux used fuel n ∧
    (lowestFreeAux used fuel n < n + fuel → used.contains (lowestFreeAux used fuel n) = false)
  | 0, n, h => ⟨h, Nat.le_refl _, fun hlt => absurd hlt (by simp [lowestFreeAux])⟩
  | fuel + 1, n, h => by
    unfold lowestFreeAux
    split
    · rename_i hc
      have ih := lowestFreeAux_spec used fuel (n + 1) (Nat.forall_lt_succ_right.2 ⟨h, hc⟩)
      refine ⟨ih.1, by omega, fun hlt => ih.2.2 (by omega)⟩
    · rename_i hc
      exact ⟨h, Nat.le_refl _, fun _ => by simpa using hc⟩

theorem lowestFree_not_mem (used : List Nat) : used.contains (lowestFree used) = false := by
  unfold lowestFree
  have h := lowestFreeAux_spec used used.length 0 (fun i hi => absurd hi (Nat.not_lt_zero i))
  by_cases hlt : lowestFreeAux used used.length 0 < 0 + used.length
  · exact h.2.2 hlt
  · -- every number below `used.length` is in use, and so would be `used.length`: too many elements
    cases hc : used.contains (lowestFreeAux used used.length 0) with
    | false => rfl
    | true =>
      exfalso
      have hall : ∀ i, i < lowestFreeAux used used.length 0 + 1 → i ∈ used :=
        Nat.forall_lt_succ_right.2 ⟨fun i hl => by simpa using h.1 i hl, by simpa using hc⟩
      have := List.nodup_range.length_le_of_subset fun i hi => hall i (List.mem_range.1 hi)
      rw [List.length_range] at this
      omega

theorem lowestFree_least (used : List Nat) (i : Nat) (h : i < lowestFree used) : used.contains i = true :=
  (lowestFreeAux_spec used used.length 0 (fun i hi => absurd hi (Nat.not_lt_zero i))).1 i h

structure Inv (w : World) : Prop where
  func : ∀ fd a b, (fd, a) ∈ w.table → (fd, b) ∈ w.table → a = b
  owns : ∀ o ∈ w.objs, o.closed = false → ∀ fd ∈ o.fds, (fd, o.id) ∈ w.table
  uniq : ∀ o ∈ w.objs, ∀ o' ∈ w.objs, o.id = o'.id → o = o'
  back : ∀ fd a, (fd, a) ∈ w.table → ∃ o ∈ w.objs, o.id = a ∧ o.closed = false ∧ fd ∈ o.fds
  log  : ∀ e ∈ w.log, e.owner = some e.obj

theorem inv_init : Inv ({} : World) where
  func := by intro fd a b h; cases h
  owns := by intro o h; cases h
  uniq := by intro o h; cases h
  back := by intro fd a h; cases h
  log := by intro e h; cases h

theorem ownerOf_eq {w : World} (hI : Inv w) {fd k : Nat} (h : (fd, k) ∈ w.table) : ownerOf w fd = some k := by
  unfold ownerOf
  cases hf : w.table.find? (·.1 == fd) with
  | none =>
    have := List.find?_eq_none.1 hf (fd, k) h
    simp at this
  | some e =>
    have he : e.1 = fd := by simpa using List.find?_some hf
    have : (fd, e.2) ∈ w.table := by rw [← he]; exact List.mem_of_find?_eq_some hf
    exact congrArg some (hI.func fd e.2 k this h)

theorem getObj_mem {w : World} {k : Nat} {o : Obj} (h : getObj w k = some o) : o ∈ w.objs ∧ o.id = k := by
  unfold getObj at h
  exact ⟨List.mem_of_find?_eq_some h, by simpa using List.find?_some h⟩

theorem isOpen_false {w : World} {fd : Nat} (h : isOpen w fd = false) (a : Nat) : (fd, a) ∉ w.table := by
  intro hm
  unfold isOpen at h
  have := List.any_eq_false.1 h (fd, a) hm
  simp at this

theorem step_new_cases {g : Bool} {w w' : World} {k : Nat} {fds : List Nat} (h : step g w (.new k fds) = some w') :
    getObj w k = none ∧ distinct fds = true ∧ fds.any (isOpen w) = false ∧
    w' = { w with table := fds.map (·, k) ++ w.table, objs := { id := k, fds := fds } :: w.objs } := by
  simp only [step] at h
  split at h
  · cases h
  · rename_i hc
    simp only [Bool.or_eq_true, Bool.not_eq_true', not_or, Bool.not_eq_true, Option.isSome_eq_false_iff,
      Option.isNone_iff_eq_none, Bool.not_eq_false] at hc
    exact ⟨hc.1.1, hc.1.2, hc.2, (Option.some.inj h).symm⟩

theorem step_close_cases {w w' : World} {k : Nat} (h : step true w (.close k) = some w') :
    ∃ o, getObj w k = some o ∧ ((o.closed = true ∧ w' = w) ∨ (o.closed = false ∧
      w' = { table := w.table.filter (fun e => !o.fds.contains e.1),
             objs := w.objs.map (fun x => if x.id == k then { x with closed := true } else x),
             log := w.log ++ o.fds.map (fun fd => { obj := k, fd := fd, owner := ownerOf w fd }) })) := by
  simp only [step] at h
  cases hg : getObj w k with
  | none => simp [hg] at h
  | some o =>
    refine ⟨o, rfl, ?_⟩
    cases hc : o.closed <;> simp only [hg, hc, Bool.and_true, Bool.false_eq_true, if_false, if_true] at h
    · exact Or.inr ⟨rfl, (Option.some.inj h).symm⟩
    · exact Or.inl ⟨rfl, (Option.some.inj h).symm⟩

namespace Inv
variable {w : World} (hI : Inv w) {o : Obj} (hom : o ∈ w.objs)
include hI hom

theorem owned_iff (hopen : o.closed = false) {fd a : Nat} (h : (fd, a) ∈ w.table) : fd ∈ o.fds ↔ a = o.id := by
  constructor
  · intro hfd; exact hI.func fd a o.id h (hI.owns o hom hopen fd hfd)
  · intro ha
    obtain ⟨y, hy, h1, _, h3⟩ := hI.back fd a h
    rwa [hI.uniq y hy o hom (h1.trans ha)] at h3

theorem filter_fds (hopen : o.closed = false) :
    w.table.filter (fun e => !o.fds.contains e.1) = w.table.filter (·.2 != o.id) :=
  List.filter_congr fun e he => by by_cases ha : e.2 = o.id <;> simp [hI.owned_iff hom hopen he, ha]

theorem filter_closed (hcl : o.closed = true) : w.table.filter (·.2 != o.id) = w.table :=
  List.filter_eq_self.2 fun e he => by
    obtain ⟨y, hy, h1, h2, _⟩ := hI.back e.1 e.2 he
    simp only [bne_iff_ne, ne_eq]
    intro hek
    rw [hI.uniq y hy o hom (h1.trans hek), hcl] at h2
    cases h2

end Inv

theorem step_close_table {w w' : World} {k : Nat} (hI : Inv w) (h : step true w (.close k) = some w') :
    w'.table = w.table.filter (·.2 != k) := by
  obtain ⟨o, hg, ⟨hcl, rfl⟩ | ⟨hopen, rfl⟩⟩ := step_close_cases h <;> obtain ⟨hom, rfl⟩ := getObj_mem hg
  · exact (hI.filter_closed hom hcl).symm
  · exact hI.filter_fds hom hopen

theorem step_inv (w w' : World) (op : Op) (hI : Inv w) (h : step true w op = some w') : Inv w' := by
  cases op with
  | new k fds =>
    obtain ⟨hnone, _, hfree, rfl⟩ := step_new_cases h
    have hfree' : ∀ fd ∈ fds, ∀ a, (fd, a) ∉ w.table := fun fd hfd =>
      isOpen_false (by simpa using List.any_eq_false.1 hfree fd hfd)
    have hnew : ∀ fd a, (fd, a) ∈ fds.map (·, k) → fd ∈ fds ∧ a = k := by
      intro fd a hm
      simp only [List.mem_map, Prod.mk.injEq] at hm
      obtain ⟨x, hx, rfl, rfl⟩ := hm
      exact ⟨hx, rfl⟩
    refine { hI with
      func := fun fd a b ha hb => ?_
      owns := fun o ho hcl fd hfd => ?_
      uniq := fun o ho o' ho' hid => ?_
      back := fun fd a hm => ?_ }
    · simp only [List.mem_append] at ha hb
      rcases ha with ha | ha <;> rcases hb with hb | hb
      · rw [(hnew fd a ha).2, (hnew fd b hb).2]
      · exact absurd hb (hfree' fd (hnew fd a ha).1 b)
      · exact absurd ha (hfree' fd (hnew fd b hb).1 a)
      · exact hI.func fd a b ha hb
    · simp only [List.mem_cons] at ho
      simp only [List.mem_append]
      rcases ho with rfl | ho
      · left; exact List.mem_map.2 ⟨fd, hfd, rfl⟩
      · right; exact hI.owns o ho hcl fd hfd
    · simp only [List.mem_cons] at ho ho'
      have hk : ∀ x ∈ w.objs, x.id ≠ k := by
        intro x hx hxk
        unfold getObj at hnone
        have := List.find?_eq_none.1 hnone x hx
        simp [hxk] at this
      rcases ho with rfl | ho <;> rcases ho' with rfl | ho'
      · rfl
      · exact absurd hid.symm (hk o' ho')
      · exact absurd hid (hk o ho)
      · exact hI.uniq o ho o' ho' hid
    · simp only [List.mem_append] at hm
      rcases hm with hm | hm
      · obtain ⟨hfd, rfl⟩ := hnew fd a hm
        exact ⟨_, List.mem_cons_self, rfl, rfl, hfd⟩
      · obtain ⟨o, ho, h1, h2, h3⟩ := hI.back fd a hm
        exact ⟨o, List.mem_cons_of_mem _ ho, h1, h2, h3⟩
  | close k =>
    obtain ⟨o, hg, ⟨_, rfl⟩ | ⟨hopen, rfl⟩⟩ := step_close_cases h
    · exact hI
    obtain ⟨hom, rfl⟩ := getObj_mem hg
    -- the table loses the entries owned by `o`; the objects keep their ids, and only `o` changes
    have hid : ∀ y : Obj, (if y.id == o.id then { y with closed := true } else y).id = y.id := fun y => by
      split <;> rfl
    rw [hI.filter_fds hom hopen]
    refine {
      func := fun fd a b ha hb => hI.func fd a b (List.mem_filter.1 ha).1 (List.mem_filter.1 hb).1
      owns := fun x hx hxc fd hfd => ?_
      uniq := fun x hx x' hx' hxx => ?_
      back := fun fd a hm => ?_
      log := fun e he => ?_ }
    · obtain ⟨y, hy, rfl⟩ := List.mem_map.1 hx
      by_cases hyk : y.id == o.id
      · simp [hyk] at hxc
      · simp only [hyk] at hxc hfd ⊢
        exact List.mem_filter.2 ⟨hI.owns y hy hxc fd hfd, by simpa using hyk⟩
    · obtain ⟨y, hy, rfl⟩ := List.mem_map.1 hx
      obtain ⟨y', hy', rfl⟩ := List.mem_map.1 hx'
      rw [hid, hid] at hxx
      rw [hI.uniq y hy y' hy' hxx]
    · obtain ⟨hm, hne⟩ := List.mem_filter.1 hm
      obtain ⟨y, hy, rfl, h2, h3⟩ := hI.back fd a hm
      have hyk : ¬ (y.id == o.id) = true := by simpa using hne
      exact ⟨_, List.mem_map.2 ⟨y, hy, rfl⟩, hid y, by rwa [if_neg hyk], by rwa [if_neg hyk]⟩
    · simp only [List.mem_append, List.mem_map] at he
      rcases he with he | ⟨fd, hfd, rfl⟩
      · exact hI.log e he
      · exact ownerOf_eq hI (hI.owns o hom hopen fd hfd)

theorem run_inv (w w' : World) (ops : List Op) (hI : Inv w) (h : run true w ops = some w') : Inv w' := by
  induction ops generalizing w with
  | nil => simp only [run] at h; cases h; exact hI
  | cons op r ih =>
    simp only [run] at h
    cases hs : step true w op with
    | none => simp [hs] at h
    | some w1 =>
      simp only [hs] at h
      exact ih w1 (step_inv w w1 op hI hs) h

end Sonic.Model.Resources
