/-
List facts used by the C08/C15 proofs: the outgoing frame sequence `wire ++ pending`, "nothing follows a Close",
and the monitor's matching of obligations against frames.
-/
import Sonic.Model.WsStream

namespace Sonic.Lemmas.WsOut
open Sonic.Spec.WsStream Sonic.Model.WsStream

def out (m : M) : List OutFrame := m.wire ++ m.pending

def noClose (l : List OutFrame) : Prop := ∀ x ∈ l, x.isClose = false

def closeLast : List OutFrame → Bool
  | [] => true
  | x :: r => if x.isClose then r.isEmpty else closeLast r

def matchExact : List Expect → List OutFrame → Bool
  | [], [] => true
  | e :: es, g :: gs => e.matches g && matchExact es gs
  | _, _ => false

theorem noClose_nil : noClose [] := by intro x hx; cases hx

theorem noClose_append {a b : List OutFrame} (ha : noClose a) (hb : noClose b) : noClose (a ++ b) := by
  intro x hx
  rcases List.mem_append.1 hx with h | h
  · exact ha x h
  · exact hb x h

theorem noClose_single {x : OutFrame} (h : x.isClose = false) : noClose [x] := by
  intro y hy; simp at hy; subst hy; exact h

theorem closeLast_append {l : List OutFrame} (h : noClose l) (r : List OutFrame) : closeLast (l ++ r) = closeLast r := by
  induction l with
  | nil => rfl
  | cons x l ih =>
    rw [List.cons_append, closeLast, h x (List.mem_cons_self ..), if_neg Bool.false_ne_true]
    exact ih fun y hy => h y (List.mem_cons_of_mem _ hy)

theorem closeLast_of_noClose {l : List OutFrame} (h : noClose l) : closeLast l = true := by
  rw [← List.append_nil l, closeLast_append h]
  rfl

theorem closeLast_snoc {l : List OutFrame} (x : OutFrame) (h : noClose l) : closeLast (l ++ [x]) = true := by
  rw [closeLast_append h, closeLast]
  split <;> rfl

theorem matchExact_length : ∀ {e : List Expect} {g : List OutFrame}, matchExact e g = true → e.length = g.length
  | [], [], _ => rfl
  | [], _ :: _, h => by simp [matchExact] at h
  | _ :: _, [], h => by simp [matchExact] at h
  | _ :: es, _ :: gs, h => by
    simp only [matchExact, Bool.and_eq_true] at h
    simp [matchExact_length h.2]

theorem matchExact_append : ∀ {e : List Expect} {g : List OutFrame} {e' : List Expect} {g' : List OutFrame},
    matchExact e g = true → matchExact e' g' = true → matchExact (e ++ e') (g ++ g') = true
  | [], [], _, _, _, h' => by simpa using h'
  | [], _ :: _, _, _, h, _ => by simp [matchExact] at h
  | _ :: _, [], _, _, h, _ => by simp [matchExact] at h
  | _ :: es, _ :: gs, _, _, h, h' => by
    simp only [matchExact, Bool.and_eq_true] at h
    simp only [List.cons_append, matchExact, Bool.and_eq_true]
    exact ⟨h.1, matchExact_append h.2 h'⟩

theorem matchExact_snoc {e : List Expect} {g : List OutFrame} {x : Expect} {y : OutFrame}
    (h : matchExact e g = true) (hxy : x.matches y = true) : matchExact (e ++ [x]) (g ++ [y]) = true :=
  matchExact_append h (by simp [matchExact, hxy])

theorem matchAll_of_exact : ∀ {e : List Expect} (a b c : List OutFrame),
    matchExact e (a ++ b ++ c) = true → matchAll (e.drop a.length) b = true
  | e, [], [], c, _ => by cases e <;> simp [matchAll]
  | [], [], _ :: _, _, h => by simp [matchExact] at h
  | x :: es, [], y :: b, c, h => by
    simp only [List.nil_append, List.cons_append, matchExact, Bool.and_eq_true] at h
    simp only [List.length_nil, List.drop_zero, matchAll, Bool.and_eq_true]
    refine ⟨h.1, ?_⟩
    have := matchAll_of_exact (e := es) [] b c (by simpa using h.2)
    simpa using this
  | [], _ :: _, _, _, h => by simp [matchExact] at h
  | _ :: es, _ :: a, b, c, h => by
    simp only [List.cons_append, matchExact, Bool.and_eq_true] at h
    simp only [List.length_cons, List.drop_succ_cons]
    exact matchAll_of_exact a b c h.2

theorem closeLast_tail_of_any {a : List OutFrame} : ∀ {b : List OutFrame},
    closeLast (a ++ b) = true → a.any OutFrame.isClose = true → b = [] := by
  induction a with
  | nil => intro b _ h; simp at h
  | cons x r ih =>
    intro b h hany
    simp only [List.cons_append, closeLast] at h
    by_cases hx : x.isClose = true
    · simp only [hx, if_true, List.isEmpty_iff] at h
      exact (List.append_eq_nil_iff.1 h).2
    · have hx' : x.isClose = false := by simpa using hx
      simp only [hx', Bool.false_eq_true, if_false] at h
      simp only [List.any_cons, hx', Bool.false_or] at hany
      exact ih h hany

theorem discipline_of_closeLast (a : List OutFrame) : ∀ (b c : List OutFrame),
    closeLast (a ++ b ++ c) = true → discipline (a.any OutFrame.isClose) b = true := by
  intro b
  induction b generalizing a with
  | nil => intro c _; simp [discipline]
  | cons y r ih =>
    intro c h
    simp only [discipline, Bool.and_eq_true, Bool.not_eq_true']
    constructor
    · cases hany : a.any OutFrame.isClose with
      | false => rfl
      | true =>
        have : y :: r ++ c = [] := closeLast_tail_of_any (by simpa [List.append_assoc] using h) hany
        simp at this
    · have h' : closeLast ((a ++ [y]) ++ r ++ c) = true := by simpa [List.append_assoc] using h
      have := ih (a ++ [y]) c h'
      simpa [List.any_append, Bool.or_comm] using this

theorem any_isClose_append (a b : List OutFrame) :
    (a ++ b).any OutFrame.isClose = (a.any OutFrame.isClose || b.any OutFrame.isClose) := by
  simp [List.any_append]

end Sonic.Lemmas.WsOut
