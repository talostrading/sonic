/-
Facts about the model of `FrameCodec.Decode` (`Model/WsFrame.lean`) over the ByteBuffer model
(`Model/WsBuf.lean`): under the buffer invariant every checked slice/index succeeds, and `decodeBody`
has a closed form that follows the RFC parser test by test.  From it, under the codec invariant `Codec.Inv`, `Decode`
answers as `parse c.max c.unconsumed` does (`decode_frame`, `decode_tooBig`, `decode_needMore`), which is what C07 uses.
-/
import Sonic.Model.WsFrame
import Sonic.Lemmas.WsParse

namespace Sonic.Model.WsFrame
open Sonic.Model.WsBuf Sonic.Spec.WsFrame

@[simp] theorem ebind_ok {ε α β} (a : α) (f : α → Except ε β) : (Except.ok a >>= f) = f a := rfl
@[simp] theorem ebind_err {ε α β} (e : ε) (f : α → Except ε β) : (Except.error e >>= f) = .error e := rfl
@[simp] theorem epure {ε α} (a : α) : (pure a : Except ε α) = .ok a := rfl
@[simp] theorem ethrow {ε α} (e : ε) : (throw e : Except ε α) = .error e := rfl

theorem ReadLen_eq {b : Buf} (hI : b.Inv) : b.ReadLen = .ok b.ri := by
  obtain ⟨hsi, h1, h2, h3, h4, h5⟩ := hI
  unfold Buf.ReadLen Buf.sliceLen
  rw [if_pos (by omega), hsi]; simp

theorem WriteLen_eq {b : Buf} (hI : b.Inv) : b.WriteLen = .ok (b.wi - b.ri) := by
  obtain ⟨hsi, h1, h2, h3, h4, h5⟩ := hI
  unfold Buf.WriteLen Buf.sliceLen
  rw [if_pos (by omega)]; simp

theorem SaveLen_eq {b : Buf} (hI : b.Inv) : b.SaveLen = .ok 0 := by
  obtain ⟨hsi, h1, h2, h3, h4, h5⟩ := hI
  unfold Buf.SaveLen Buf.sliceLen
  rw [if_pos (by omega), hsi]; simp

/-- The buffer after a successful `PrepareRead(n)`: the read area reaches at least to `n`. -/
def bump (b : Buf) (n : Int) : Buf := { b with ri := if b.ri < n then n else b.ri }

@[simp] theorem bump_cap (b : Buf) (n : Int) : (bump b n).cap = b.cap := rfl
@[simp] theorem bump_si (b : Buf) (n : Int) : (bump b n).si = b.si := rfl

theorem bump_inv {b : Buf} {n : Int} (hI : b.Inv) (hn : n ≤ b.wi) : (bump b n).Inv := by
  obtain ⟨hsi, h1, h2, h3, h4, h5⟩ := hI
  unfold bump Buf.Inv
  dsimp only
  refine ⟨hsi, ?_, ?_, h3, h4, h5⟩ <;> split <;> omega

theorem bump_ri_ge (b : Buf) (n : Int) : n ≤ (bump b n).ri := by unfold bump; dsimp only; split <;> omega
theorem bump_ri_le (b : Buf) (n : Int) : b.ri ≤ (bump b n).ri := by unfold bump; dsimp only; split <;> omega

theorem le_wi {b : Buf} (hI : b.Inv) {k : Nat} (h : k ≤ b.data.length) : (k : Int) ≤ b.wi := by
  rw [← hI.2.2.2.2.2]; exact Int.ofNat_le.mpr h

theorem prep_eq {b : Buf} (k : Nat) (hI : b.Inv) (hk : (k : Int) ≤ Go.I64MAX) :
    b.PrepareRead k = .ok (if b.data.length < k then (b, true) else (bump b k, false)) := by
  have hI' := hI
  obtain ⟨hsi, h1, h2, h3, h4, h5⟩ := hI'
  unfold Buf.PrepareRead bump
  rw [ReadLen_eq hI, WriteLen_eq hI]
  have hs : Go.sub k b.ri = k - b.ri := Go.sub_eq (by omega)
  simp only [ebind_ok, hs, epure]
  clear hs
  by_cases hlt : b.data.length < k
  · rw [if_pos hlt, if_pos (by omega), if_neg (by omega)]
  · rw [if_neg hlt]
    by_cases hr : b.ri < (k : Int)
    · rw [if_pos (by omega), if_pos (by omega), if_pos hr]
      unfold Buf.Commit
      rw [if_neg (by omega)]
      dsimp only
      rw [if_neg (by omega), show b.ri + ((k : Int) - b.ri) = k by omega]
    · rw [if_neg (by omega), if_neg hr]

theorem prefix_bump {b : Buf} {k : Nat} (hI : b.Inv) (hk : k ≤ b.data.length) :
    (bump b k).dataPrefix k = .ok (b.data.take k) := by
  have hr := bump_ri_ge b k
  obtain ⟨hsi, h1, h2, h3, h4, h5⟩ := bump_inv hI (le_wi hI hk)
  unfold Buf.dataPrefix
  rw [if_neg (by omega), if_neg (by omega), if_neg (by omega), hsi]
  rfl

theorem and7f (b : UInt8) : (b &&& 0x7f).toNat = b.toNat % 128 := by
  rw [UInt8.toNat_and]; exact Nat.and_two_pow_sub_one_eq_mod b.toNat 7

theorem and0f (b : UInt8) : (b &&& 0x0f).toNat = b.toNat % 16 := by
  rw [UInt8.toNat_and]; exact Nat.and_two_pow_sub_one_eq_mod b.toNat 4

theorem and7f_beq (b k : UInt8) : ((b &&& 0x7f) == k) = decide (b.toNat % 128 = k.toNat) := by
  rw [← and7f]; exact decide_eq_decide.mpr UInt8.toNat_inj.symm

theorem and7f_beq127 (b : UInt8) : ((b &&& 0x7f) == 127) = decide (b.toNat % 128 = 127) := and7f_beq b 127
theorem and7f_beq126 (b : UInt8) : ((b &&& 0x7f) == 126) = decide (b.toNat % 128 = 126) := and7f_beq b 126

theorem and_two_pow (n k : Nat) : n &&& 2 ^ k = if n.testBit k then 2 ^ k else 0 := by
  apply Nat.eq_of_testBit_eq
  intro j
  rw [Nat.testBit_and, Nat.testBit_two_pow]
  by_cases hj : k = j
  · subst hj
    cases n.testBit k <;> simp
  · cases n.testBit k <;> simp [hj]

theorem bit_test (b : UInt8) (k : Nat) (hk : k < 8) :
    ((b &&& UInt8.ofNat (2 ^ k)) != 0) = decide (b.toNat / 2 ^ k % 2 = 1) := by
  have hx : (b &&& UInt8.ofNat (2 ^ k)).toNat = if b.toNat.testBit k then 2 ^ k else 0 := by
    rw [UInt8.toNat_and, UInt8.toNat_ofNat', Nat.mod_eq_of_lt (Nat.pow_lt_pow_right (by decide) hk), and_two_pow]
  rw [← Nat.testBit_eq_decide_div_mod_eq]
  cases hb : b.toNat.testBit k <;> rw [hb] at hx
  · have h0 : (b &&& UInt8.ofNat (2 ^ k)) = 0 := UInt8.toNat_inj.mp hx
    rw [h0]; rfl
  · exact bne_iff_ne.mpr fun h0 => by rw [h0] at hx; exact absurd hx.symm (Nat.pos_iff_ne_zero.mp (Nat.two_pow_pos k))

theorem bit80 (b : UInt8) : ((b &&& 0x80) != 0) = decide (b.toNat ≥ 128) :=
  (bit_test b 7 (by decide)).trans (decide_eq_decide.mpr (by have := b.toNat_lt; omega))
theorem bit40 (b : UInt8) : ((b &&& 0x40) != 0) = decide (b.toNat / 64 % 2 = 1) := bit_test b 6 (by decide)
theorem bit20 (b : UInt8) : ((b &&& 0x20) != 0) = decide (b.toNat / 32 % 2 = 1) := bit_test b 5 (by decide)
theorem bit10 (b : UInt8) : ((b &&& 0x10) != 0) = decide (b.toNat / 16 % 2 = 1) := bit_test b 4 (by decide)

theorem beUint_eq (l : List UInt8) : beUint l = beNat l := rfl

theorem foldl_lt (l : List UInt8) (acc : Nat) :
    l.foldl (fun acc b => acc * 256 + b.toNat) acc < (acc + 1) * 256 ^ l.length := by
  induction l generalizing acc with
  | nil => simp
  | cons b t ih =>
    simp only [List.foldl_cons, List.length_cons]
    have h1 := ih (acc * 256 + b.toNat)
    have hb := b.toNat_lt
    have h2 : (acc * 256 + b.toNat + 1) ≤ (acc + 1) * 256 := by omega
    calc _ < (acc * 256 + b.toNat + 1) * 256 ^ t.length := h1
      _ ≤ (acc + 1) * 256 * 256 ^ t.length := Nat.mul_le_mul_right _ h2
      _ = (acc + 1) * 256 ^ (t.length + 1) := by rw [Nat.pow_succ, Nat.mul_assoc, Nat.mul_comm 256]

theorem beNat_lt (l : List UInt8) : beNat l < 256 ^ l.length := by
  have := foldl_lt l 0; simpa [beNat] using this

theorem beNat_lt_of_length_le {l : List UInt8} {k : Nat} (h : l.length ≤ k) : beNat l < 256 ^ k :=
  Nat.lt_of_lt_of_le (beNat_lt l) (Nat.pow_le_pow_right (by decide) h)

theorem u64ToInt_eq (v : Nat) (h : v < 18446744073709551616) :
    u64ToInt v = if v < 9223372036854775808 then (v : Int) else (v : Int) - 18446744073709551616 := by
  unfold u64ToInt
  rw [BitVec.toInt_ofNat']
  unfold Int.bmod
  simp only [Nat.reducePow]
  split <;> split <;> omega

theorem idx_ok {f : FrameBytes} {i : Nat} (h : i < f.length) : idx f i = .ok (f.getD i 0) := by
  unfold idx; rw [if_pos h]; rfl

theorem ext_eq {f : FrameBytes} (h : 2 ≤ f.length) : ExtendedPayloadLengthBytes f = .ok (extLen (byteAt f 1)) := by
  unfold ExtendedPayloadLengthBytes extLen byteAt
  rw [idx_ok (by omega)]
  simp only [ebind_ok, epure, and7f_beq127, and7f_beq126, decide_eq_true_eq]
  split
  · rfl
  · split <;> rfl

theorem isMasked_eq {f : FrameBytes} (h : 2 ≤ f.length) : IsMasked f = .ok (decide (byteAt f 1 ≥ 128)) := by
  unfold IsMasked
  rw [idx_ok (by omega)]
  simp only [ebind_ok, epure, bit80]; rfl

theorem slice_ok {f : FrameBytes} {lo hi : Nat} (h : lo ≤ hi) (h' : hi ≤ f.length) :
    slice f lo hi = .ok ((f.drop lo).take (hi - lo)) := by
  unfold slice; rw [if_pos ⟨h, h'⟩]; rfl

/-- The Go value of `PayloadLength()`. -/
def plOf (f : FrameBytes) : Int :=
  if extLen (byteAt f 1) = 8 then u64ToInt (declLen f) else (declLen f : Int)

theorem payloadLength_eq {f : FrameBytes} (he : 2 + extLen (byteAt f 1) ≤ f.length) :
    PayloadLength f = .ok (plOf f) := by
  unfold PayloadLength plOf declLen
  rw [idx_ok (by omega)]
  simp only [ebind_ok, epure, and7f_beq127, and7f_beq126, decide_eq_true_eq, frameHeaderLength, beUint_eq]
  unfold extLen byteAt at *
  by_cases h127 : (f.getD 1 0).toNat % 128 = 127
  · simp only [if_pos h127] at he ⊢
    rw [slice_ok (by omega) (by omega)]
    rfl
  · simp only [if_neg h127] at he ⊢
    by_cases h126 : (f.getD 1 0).toNat % 128 = 126
    · simp only [if_pos h126] at he ⊢
      rw [slice_ok (by omega) (by omega)]
      rfl
    · simp only [if_neg h126]
      rw [and7f]
      rfl

theorem declLen_lt (f : FrameBytes) : declLen f < 18446744073709551616 := by
  unfold declLen
  split
  · omega
  · have h8 := extLen_le (byteAt f 1)
    exact beNat_lt_of_length_le (k := 8) (by rw [List.length_take]; omega)

theorem declLen_small {f : FrameBytes} (h : extLen (byteAt f 1) ≠ 8) : declLen f < 65536 := by
  unfold declLen
  unfold extLen at *
  by_cases h127 : byteAt f 1 % 128 = 127
  · rw [if_pos h127] at h; exact absurd rfl h
  · rw [if_neg h127]
    by_cases h126 : byteAt f 1 % 128 = 126
    · rw [if_pos h126, if_neg (by omega)]
      exact beNat_lt_of_length_le (k := 2) (by rw [List.length_take]; omega)
    · rw [if_neg h126, if_pos rfl]; omega

theorem tooBig_iff {f : FrameBytes} {max : Int} (hmax : max ≤ Go.I64MAX) :
    (plOf f < 0 ∨ plOf f > max) ↔ (declLen f : Int) > max := by
  unfold plOf
  have hlt := declLen_lt f
  unfold Go.I64MAX at hmax
  split
  · rw [u64ToInt_eq _ hlt]; split <;> omega
  · omega

theorem plOf_eq {f : FrameBytes} {max : Int} (hmax : max ≤ Go.I64MAX) (h : ¬ (declLen f : Int) > max) :
    plOf f = declLen f := by
  unfold plOf
  have hlt := declLen_lt f
  unfold Go.I64MAX at hmax
  split
  · rw [u64ToInt_eq _ hlt]; split <;> omega
  · rfl

theorem byteAt_take {P : List UInt8} {n i : Nat} (h : i < n) (h' : i < P.length) : byteAt (P.take n) i = byteAt P i := by
  conv => rhs; rw [← List.take_append_drop n P]
  rw [byteAt_append (by rw [List.length_take]; omega)]

theorem declLen_take {P : List UInt8} {n : Nat} (hn : 2 + extLen (byteAt P 1) ≤ n)
    (hP : 2 + extLen (byteAt P 1) ≤ P.length) : declLen (P.take n) = declLen P := by
  have hb : byteAt (P.take n) 1 = byteAt P 1 := byteAt_take (by omega) (by omega)
  conv => rhs; rw [← List.take_append_drop n P]
  rw [declLen_append (by rw [hb, List.length_take]; omega)]

theorem hdrLen_take {P : List UInt8} {n : Nat} (h2 : 2 ≤ P.length) (hn : 2 ≤ n) : hdrLen (P.take n) = hdrLen P := by
  unfold hdrLen; rw [byteAt_take (by omega) (by omega)]

theorem frameOf_take {P : List UInt8} {n : Nat} (h2 : 2 ≤ P.length) (hn : hdrLen P + declLen P ≤ n)
    (hP : hdrLen P + declLen P ≤ P.length) : frameOf (P.take n) = frameOf P := by
  have hh := ext_le_hdrLen P
  have h1 := @hdrLen_take P n h2 (by omega)
  have h3 := @declLen_take P n (by omega) (by omega)
  conv => rhs; rw [← List.take_append_drop n P]
  rw [frameOf_append (by rw [h1, h3, List.length_take]; omega)]

theorem bump_of_le {b : Buf} {n : Int} (h : n ≤ b.ri) : bump b n = b := by
  unfold bump; rw [if_neg (by omega)]

theorem bump_bump (b : Buf) {m n : Int} (h : m ≤ n) : bump (bump b m) n = bump b n := by
  unfold bump
  dsimp only
  congr 1
  by_cases h1 : b.ri < m
  · rw [if_pos h1, if_pos (Int.lt_of_lt_of_le h1 h)]
    by_cases h2 : m < n
    · rw [if_pos h2]
    · rw [if_neg h2]; omega
  · rw [if_neg h1]

theorem readPayload_eq (c : Codec) {b : Buf} (cap' : Int) {P : List UInt8} (hI : b.Inv) (hd : (declLen P : Int) ≤ c.max)
    (hmax : c.max ≤ Go.I64MAX - 14) (hP : b.data = P) :
    c.readPayload b (hdrLen P : Nat) (declLen P : Nat) cap' =
      if P.length < hdrLen P + declLen P then
        (b.Reserve (declLen P : Nat) cap' >>= fun b' =>
          .ok ({ c with buf := b', frameLen := 0 }, .needMore, some ((declLen P : Nat) : Int)))
      else
        .ok ({ c with buf := bump b ((hdrLen P + declLen P : Nat) : Int),
                      frameLen := ((hdrLen P + declLen P : Nat) : Int), reset := true },
             .frame (P.take (hdrLen P + declLen P)), none) := by
  subst hP
  have h14 := hdrLen_le b.data
  have hfit : ((hdrLen b.data + declLen b.data : Nat) : Int) ≤ Go.I64MAX := by omega
  have hadd : Go.add (hdrLen b.data : Nat) (declLen b.data : Nat) = ((hdrLen b.data + declLen b.data : Nat) : Int) := by
    rw [Go.add_eq (by omega)]; omega
  unfold Codec.readPayload
  simp only [hadd]
  rw [prep_eq _ hI hfit]
  by_cases hlt : b.data.length < hdrLen b.data + declLen b.data
  · rw [if_pos hlt, if_pos hlt]
    simp only [ebind_ok, epure]
    rfl
  · rw [if_neg hlt, if_neg hlt]
    simp only [ebind_ok, epure]
    rw [prefix_bump hI (Nat.le_of_not_lt hlt)]
    simp only [ebind_ok, List.length_take]
    rw [Nat.min_eq_left (Nat.le_of_not_lt hlt)]
    rfl

theorem readMask_eq (c : Codec) {b : Buf} (cap' : Int) {P : List UInt8} (hI : b.Inv)
    (he : 2 + extLen (byteAt P 1) ≤ P.length) (hri : ((2 + extLen (byteAt P 1) : Nat) : Int) ≤ b.ri) (hP : b.data = P) :
    c.readMask b (P.take (2 + extLen (byteAt P 1))) ((2 + extLen (byteAt P 1) : Nat) : Int)
        (declLen P : Nat) cap' =
      if P.length < hdrLen P then .ok (c.fail b .needMore)
      else c.readPayload (bump b (hdrLen P : Nat)) (hdrLen P : Nat) (declLen P : Nat) cap' := by
  subst hP
  have h14 := hdrLen_le b.data
  unfold Codec.readMask
  rw [isMasked_eq (by rw [List.length_take]; omega), byteAt_take (by omega) (by omega)]
  simp only [ebind_ok]
  by_cases hm : byteAt b.data 1 ≥ 128
  · have hrs : ((2 + extLen (byteAt b.data 1) : Nat) : Int) + (frameMaskLength : Nat) = (hdrLen b.data : Nat) := by
      unfold hdrLen maskLen frameMaskLength; rw [if_pos hm]; omega
    rw [if_pos (decide_eq_true hm)]
    simp only [hrs]
    rw [prep_eq _ hI (by unfold Go.I64MAX; omega)]
    by_cases hlt : b.data.length < hdrLen b.data
    · rw [if_pos hlt, if_pos hlt]
      simp only [epure, ebind_ok, ↓reduceIte]
    · rw [if_neg hlt, if_neg hlt]
      simp only [ebind_ok]
      rw [prefix_bump hI (Nat.le_of_not_lt hlt)]
      simp only [Bool.false_eq_true, ↓reduceIte, ebind_ok]
  · have hl : hdrLen b.data = 2 + extLen (byteAt b.data 1) := by unfold hdrLen maskLen; rw [if_neg hm]; omega
    rw [if_neg (by simpa using hm), if_neg (by omega), hl, bump_of_le hri]

theorem readLength_eq (c : Codec) {b : Buf} (cap' : Int) {P : List UInt8} (hI : b.Inv) (hmax : c.max ≤ Go.I64MAX - 14)
    (h2 : 2 ≤ P.length) (hP : b.data = P) :
    c.readLength b (P.take 2) (2 : Nat) cap' =
      if P.length < 2 + extLen (byteAt P 1) then .ok (c.fail b .needMore)
      else if (declLen P : Int) > c.max then
        .ok (c.fail (bump b ((2 + extLen (byteAt P 1) : Nat) : Int)) .tooBig)
      else c.readMask (bump b ((2 + extLen (byteAt P 1) : Nat) : Int)) (P.take (2 + extLen (byteAt P 1)))
        ((2 + extLen (byteAt P 1) : Nat) : Int) (declLen P : Nat) cap' := by
  subst hP
  have h8 := extLen_le (byteAt b.data 1)
  unfold Codec.readLength
  rw [ext_eq (by rw [List.length_take]; omega), byteAt_take (by omega) (by omega)]
  simp only [ebind_ok]
  have hrs : ((2 : Nat) : Int) + (extLen (byteAt b.data 1) : Nat) = ((2 + extLen (byteAt b.data 1) : Nat) : Int) := by omega
  simp only [hrs]
  rw [prep_eq _ hI (by unfold Go.I64MAX; omega)]
  by_cases hlt : b.data.length < 2 + extLen (byteAt b.data 1)
  · rw [if_pos hlt, if_pos hlt]
    simp only [epure, ebind_ok, ↓reduceIte]
  · have he := Nat.le_of_not_lt hlt
    rw [if_neg hlt, if_neg hlt]
    simp only [ebind_ok, Bool.false_eq_true, ↓reduceIte]
    rw [prefix_bump hI he]
    simp only [ebind_ok]
    have hb1 : byteAt (b.data.take (2 + extLen (byteAt b.data 1))) 1 = byteAt b.data 1 := byteAt_take (by omega) (by omega)
    rw [payloadLength_eq (by rw [hb1, List.length_take]; omega)]
    simp only [ebind_ok]
    have hdl : declLen (b.data.take (2 + extLen (byteAt b.data 1))) = declLen b.data :=
      declLen_take (Nat.le_refl _) he
    have hmax' : c.max ≤ Go.I64MAX := by omega
    by_cases htb : (declLen b.data : Int) > c.max
    · rw [if_pos htb, if_pos ((tooBig_iff hmax').mpr (by rw [hdl]; exact htb))]
      simp only [epure]
    · rw [if_neg htb, if_neg (fun hc => htb (by rw [← hdl]; exact (tooBig_iff hmax').mp hc))]
      rw [plOf_eq hmax' (by rw [hdl]; exact htb), hdl]

theorem decodeBody_eq (c : Codec) (cap' : Int) (hI : c.buf.Inv) :
    c.decodeBody cap' =
      if c.buf.data.length < 2 then .ok (c.fail c.buf .needMore)
      else c.readLength (bump c.buf 2) (c.buf.data.take 2) (2 : Nat) cap' := by
  unfold Codec.decodeBody
  rw [show frameHeaderLength = 2 from rfl]
  dsimp only
  rw [prep_eq 2 hI (by decide)]
  by_cases hlt : c.buf.data.length < 2
  · rw [if_pos hlt, if_pos hlt]
    simp only [ebind_ok, ↓reduceIte, epure]
  · rw [if_neg hlt, if_neg hlt]
    simp only [ebind_ok, Bool.false_eq_true, ↓reduceIte]
    rw [prefix_bump hI (Nat.le_of_not_lt hlt)]
    rfl

theorem reserve_cases {b : Buf} (n cap' : Int) (hI : b.Inv) (hfit : b.wi + n ≤ Go.I64MAX) :
    b.Reserve n cap' = .error .env ∨
    ∃ B, b.Reserve n cap' = .ok B ∧ B.Inv ∧ B.data = b.data ∧ B.wi = b.wi ∧ B.ri = b.ri ∧ b.cap ≤ B.cap ∧ n ≤ B.cap - B.wi ∧
      (n ≤ b.cap - b.wi → B.cap = b.cap) := by
  obtain ⟨hsi, h1, h2, h3, h4, h5⟩ := hI
  unfold Buf.Reserve
  dsimp only
  by_cases hg : n > b.cap - b.wi
  · rw [if_pos hg, if_neg (by omega)]
    by_cases henv : b.wi + n ≤ cap' ∧ cap' ≤ Go.I64MAX
    · right
      rw [if_neg (by simpa using henv), if_pos (by omega)]
      exact ⟨_, rfl, ⟨hsi, h1, h2, by dsimp only; omega, henv.2, h5⟩, rfl, rfl, rfl, by dsimp only; omega, by dsimp only; omega,
        fun h => by omega⟩
    · left; rw [if_pos henv]; rfl
  · right
    rw [if_neg hg, if_pos (by omega)]
    exact ⟨_, rfl, ⟨hsi, h1, h2, h3, h4, h5⟩, rfl, rfl, rfl, Int.le_refl _, by omega, fun _ => rfl⟩

theorem consume_eq {b : Buf} {n : Nat} (hI : b.Inv) (hn : (n : Int) ≤ b.ri) :
    b.Consume n = .ok { b with ri := b.ri - n, wi := b.wi - n, data := b.data.drop n } := by
  have hI' := hI
  obtain ⟨hsi, h1, h2, h3, h4, h5⟩ := hI'
  unfold Buf.Consume
  by_cases h0 : (n : Int) ≤ 0
  · rw [if_pos h0]
    have : n = 0 := by omega
    subst this
    simp
  · rw [if_neg h0, ReadLen_eq hI]
    simp only [ebind_ok]
    have e : (if (n : Int) > b.ri then b.ri else (n : Int)) = n := if_neg (by omega)
    simp only [e]
    rw [if_pos (by omega), if_pos (by omega), hsi]
    simp

theorem consume_inv {b : Buf} {n : Nat} (hI : b.Inv) (hn : (n : Int) ≤ b.ri) :
    ({ b with ri := b.ri - n, wi := b.wi - n, data := b.data.drop n } : Buf).Inv := by
  obtain ⟨hsi, h1, h2, h3, h4, h5⟩ := hI
  refine ⟨hsi, by dsimp only; omega, by dsimp only; omega, by dsimp only; omega, h4, ?_⟩
  dsimp only
  rw [List.length_drop]; omega

theorem write_cases {b : Buf} (bs : List UInt8) (cap' : Int) (hI : b.Inv) :
    b.Write bs cap' = .error .env ∨
    ∃ B, b.Write bs cap' = .ok B ∧ B.Inv ∧ B.data = b.data ++ bs ∧ B.ri = b.ri ∧ b.cap ≤ B.cap := by
  obtain ⟨hsi, h1, h2, h3, h4, h5⟩ := hI
  unfold Buf.Write
  dsimp only
  by_cases hfit : b.wi + bs.length ≤ b.cap
  · right
    rw [if_pos hfit]
    refine ⟨_, rfl, ⟨hsi, h1, by dsimp only; omega, hfit, h4, ?_⟩, rfl, rfl, Int.le_refl _⟩
    dsimp only; rw [List.length_append]; omega
  · rw [if_neg hfit]
    by_cases henv : b.wi + bs.length ≤ cap' ∧ cap' ≤ Go.I64MAX
    · right
      rw [if_pos henv]
      refine ⟨_, rfl, ⟨hsi, h1, by dsimp only; omega, henv.1, henv.2, ?_⟩, rfl, rfl, by dsimp only; omega⟩
      dsimp only; rw [List.length_append]; omega
    · left; rw [if_neg henv]; rfl

theorem readFrom_eq {b : Buf} (avail : List UInt8) (hI : b.Inv) :
    ∃ B n, b.ReadFrom avail = .ok (B, n) ∧ B.Inv ∧ n ≤ avail.length ∧ B.data = b.data ++ avail.take n ∧ B.ri = b.ri ∧ B.cap = b.cap := by
  obtain ⟨hsi, h1, h2, h3, h4, h5⟩ := hI
  unfold Buf.ReadFrom Buf.sliceLen
  rw [if_pos (by omega)]
  simp only [ebind_ok, epure]
  refine ⟨_, _, rfl, ⟨hsi, h1, by dsimp only; omega, by dsimp only; omega, h4, ?_⟩, Nat.min_le_right _ _, rfl, rfl, rfl⟩
  dsimp only
  rw [List.length_append, List.length_take]; omega

theorem commit_inv {b : Buf} (hb : b.Inv) (n : Int) :
    (b.Commit n).Inv ∧ (b.Commit n).data = b.data ∧ b.ri ≤ (b.Commit n).ri ∧ (b.Commit n).cap = b.cap := by
  obtain ⟨h0, h1, h2, h3, h4, h5⟩ := hb
  unfold Buf.Commit
  by_cases hn : n ≤ 0
  · rw [if_pos hn]; exact ⟨⟨h0, h1, h2, h3, h4, h5⟩, rfl, Int.le_refl _, rfl⟩
  · rw [if_neg hn]
    dsimp only
    split <;> exact ⟨⟨h0, (by show 0 ≤ b.ri + _; omega), (by show b.ri + _ ≤ b.wi; omega), h3, h4, h5⟩, rfl,
      (by show b.ri ≤ b.ri + _; omega), rfl⟩

theorem view_eq {f : FrameBytes} (h2 : 2 ≤ f.length) (hn : f.length = hdrLen f + declLen f) :
    view f = .ok (frameOf f, f.length) := by
  have hl : hdrLen f ≤ f.length := by omega
  have he : 2 + extLen (byteAt f 1) ≤ f.length := by unfold hdrLen at hl; omega
  unfold view IsFIN IsRSV1 IsRSV2 IsRSV3 Opcode Mask Payload payloadOffset maskOffset MaskBytes
  simp only [idx_ok (show 0 < f.length by omega), isMasked_eq h2, ext_eq h2, ebind_ok, epure]
  have hmo : (if decide (byteAt f 1 ≥ 128) = true then (Except.ok frameMaskLength : M Nat) else .ok 0) = .ok (maskLen (byteAt f 1)) := by
    unfold maskLen frameMaskLength; by_cases hm : byteAt f 1 ≥ 128 <;> simp [hm]
  simp only [hmo, ebind_ok]
  have hpo : frameHeaderLength + extLen (byteAt f 1) + maskLen (byteAt f 1) = hdrLen f := rfl
  rw [hpo, slice_ok hl (Nat.le_refl _)]
  simp only [ebind_ok]
  have hpay : (f.drop (hdrLen f)).take (f.length - hdrLen f) = (f.drop (hdrLen f)).take (declLen f) := by
    rw [show f.length - hdrLen f = declLen f by omega]
  have hb0 : (f.getD 0 0).toNat = byteAt f 0 := rfl
  by_cases hm : byteAt f 1 ≥ 128
  · have hml : maskLen (byteAt f 1) = 4 := by unfold maskLen; rw [if_pos hm]
    rw [if_pos (by simpa using hm)]
    rw [slice_ok (by omega) (by unfold hdrLen at hl; unfold frameHeaderLength frameMaskLength; omega)]
    simp only [ebind_ok]
    unfold frameOf
    simp only [bit80, bit40, bit20, bit10, and0f, hpay, hb0, hml, frameHeaderLength, frameMaskLength]
    simp only [ge_iff_le, Nat.add_sub_cancel_left]
  · have hml : maskLen (byteAt f 1) = 0 := by unfold maskLen; rw [if_neg hm]
    rw [if_neg (by simpa using hm)]
    unfold frameOf
    simp only [bit80, bit40, bit20, bit10, and0f, hpay, hb0, hml]
    simp only [ge_iff_le, ebind_ok, List.take_zero]

theorem view_take {max : Int} {P : List UInt8} {f : Frame} {n : Nat} (hp : parse max P = .frame f n) :
    view (P.take n) = .ok (f, n) := by
  obtain ⟨h2, hn, hle, hf, _⟩ := parse_frame hp
  have hh := ext_le_hdrLen P
  have hn' : hdrLen P + declLen P ≤ n := Nat.le_of_eq hn.symm
  have he : 2 + extLen (byteAt P 1) ≤ n := by omega
  have hl : (P.take n).length = n := by rw [List.length_take]; omega
  rw [view_eq (by omega) (by rw [hl, hdrLen_take h2 (by omega), declLen_take he (by omega)]; exact hn), hl,
    frameOf_take h2 hn' (by omega), hf]

/-- Size of the frame returned by the previous `Decode` that is still in the buffer. -/
def Codec.held (c : Codec) : Nat := if c.reset then c.frameLen.toNat else 0

/-- The bytes the next `Decode` will look at. -/
def Codec.unconsumed (c : Codec) : List UInt8 := c.buf.data.drop c.held

theorem Codec.held_of_not_reset {c : Codec} (h : c.reset = false) : c.held = 0 := by
  unfold Codec.held; rw [h]; rfl

theorem Codec.unconsumed_of_not_reset {c : Codec} (h : c.reset = false) : c.unconsumed = c.buf.data := by
  unfold Codec.unconsumed; rw [Codec.held_of_not_reset h]; rfl

theorem Codec.held_of_reset {c : Codec} {n : Nat} (h : c.reset = true) (hf : c.frameLen = n) : c.held = n := by
  unfold Codec.held; rw [if_pos h, hf, Int.toNat_natCast]

theorem Codec.unconsumed_of_reset {c : Codec} {n : Nat} (h : c.reset = true) (hf : c.frameLen = n) :
    c.unconsumed = c.buf.data.drop n := by
  unfold Codec.unconsumed; rw [Codec.held_of_reset h hf]

/-- Invariant of the codec: buffer invariant, room for a header, `2·max + 14 ≤ MaxInt64` (with an incomplete payload the
buffer holds fewer than `14 + max` bytes and `Reserve(payloadLength)` computes `wi + payloadLength`), and the frame handed
out last lies inside the read area. -/
def Codec.Inv (c : Codec) : Prop :=
  c.buf.Inv ∧ 14 ≤ c.buf.cap ∧ 2 * c.max + 14 ≤ Go.I64MAX ∧ (c.reset = true → 0 ≤ c.frameLen ∧ c.frameLen ≤ c.buf.ri)

theorem Codec.Inv.max_le {c : Codec} (h : c.Inv) : c.max ≤ Go.I64MAX - 14 := by
  obtain ⟨_, _, hm, _⟩ := h; unfold Go.I64MAX at *; omega

theorem decodeBody_closed (c : Codec) (cap' : Int) (hI : c.buf.Inv) (hmax : c.max ≤ Go.I64MAX - 14) :
    c.decodeBody cap' =
      if c.buf.data.length < 2 then .ok (c.fail c.buf .needMore)
      else if c.buf.data.length < 2 + extLen (byteAt c.buf.data 1) then .ok (c.fail (bump c.buf 2) .needMore)
      else if (declLen c.buf.data : Int) > c.max then
        .ok (c.fail (bump c.buf ((2 + extLen (byteAt c.buf.data 1) : Nat) : Int)) .tooBig)
      else if c.buf.data.length < hdrLen c.buf.data then
        .ok (c.fail (bump c.buf ((2 + extLen (byteAt c.buf.data 1) : Nat) : Int)) .needMore)
      else c.readPayload (bump c.buf (hdrLen c.buf.data : Nat)) (hdrLen c.buf.data : Nat) (declLen c.buf.data : Nat) cap' := by
  have hh := ext_le_hdrLen c.buf.data
  rw [decodeBody_eq c cap' hI]
  by_cases c1 : c.buf.data.length < 2
  · rw [if_pos c1, if_pos c1]
  have l2 := Nat.le_of_not_lt c1
  rw [if_neg c1, if_neg c1,
    readLength_eq c (b := bump c.buf 2) cap' (bump_inv hI (le_wi hI l2)) hmax l2 rfl]
  by_cases c2 : c.buf.data.length < 2 + extLen (byteAt c.buf.data 1)
  · rw [if_pos c2, if_pos c2]
  have le := Nat.le_of_not_lt c2
  rw [if_neg c2, if_neg c2, bump_bump c.buf (show (2 : Int) ≤ ((2 + extLen (byteAt c.buf.data 1) : Nat) : Int) by omega)]
  by_cases c3 : (declLen c.buf.data : Int) > c.max
  · rw [if_pos c3, if_pos c3]
  rw [if_neg c3, if_neg c3, readMask_eq c cap' (bump_inv hI (le_wi hI le)) le (bump_ri_ge _ _) rfl]
  by_cases c4 : c.buf.data.length < hdrLen c.buf.data
  · rw [if_pos c4, if_pos c4]
  · rw [if_neg c4, if_neg c4, bump_bump c.buf (Int.ofNat_le.mpr hh)]

theorem held_le {c : Codec} (hI : c.Inv) : (c.held : Int) ≤ c.buf.ri := by
  obtain ⟨hb, _, _, hr⟩ := hI
  unfold Codec.held
  split
  · rename_i h; have := hr h; omega
  · exact hb.2.1

theorem resetDecode_eq {c : Codec} (hI : c.Inv) :
    ∃ c1, c.resetDecode = .ok c1 ∧ c1.buf.Inv ∧ c1.reset = false ∧ c1.buf.data = c.unconsumed ∧ c1.max = c.max ∧
      c1.buf.cap = c.buf.cap := by
  have hI' := hI
  obtain ⟨hb, hcap, hmax, hr⟩ := hI'
  unfold Codec.resetDecode Codec.unconsumed Codec.held
  by_cases hreset : c.reset = true
  · obtain ⟨h0, h1⟩ := hr hreset
    rw [if_pos hreset, if_pos hreset]
    generalize hk : c.frameLen.toNat = k
    have hfl : c.frameLen = (k : Int) := by omega
    rw [hfl, consume_eq hb (by omega)]
    simp only [ebind_ok, epure]
    exact ⟨_, rfl, consume_inv hb (by omega), rfl, rfl, rfl, rfl⟩
  · rw [if_neg hreset, if_neg hreset]
    exact ⟨c, rfl, hb, by simpa using hreset, by simp, rfl, rfl⟩

theorem decode_reset {c : Codec} (cap' : Int) (hI : c.Inv) :
    ∃ c1 : Codec, c.Decode cap' = c1.decodeBody cap' ∧ c1.buf.Inv ∧ c1.reset = false ∧ c1.buf.data = c.unconsumed ∧ c1.max = c.max ∧
      c1.buf.cap = c.buf.cap := by
  obtain ⟨c1, h1, rest⟩ := resetDecode_eq hI
  exact ⟨c1, by unfold Codec.Decode; rw [h1]; rfl, rest⟩

theorem decode_frame {c : Codec} (cap' : Int) (hI : c.Inv) {f : Frame} {n : Nat}
    (hp : parse c.max c.unconsumed = .frame f n) :
    ∃ c', c.Decode cap' = .ok (c', .frame (c.unconsumed.take n), none) ∧ c'.Inv ∧ c'.reset = true ∧ c'.frameLen = n ∧
      c'.buf.data = c.unconsumed ∧ c'.max = c.max ∧ c'.buf.cap = c.buf.cap := by
  obtain ⟨c1, hD, i1, -, d1, m1, k1⟩ := decode_reset cap' hI
  have hmax := hI.max_le
  obtain ⟨_, hcap, hmax2, _⟩ := hI
  rw [← m1] at hmax hmax2 hp ⊢
  rw [← d1] at hp ⊢
  obtain ⟨l2, hn, ln, -, hd⟩ := parse_frame hp
  have hh := ext_le_hdrLen c1.buf.data
  have lh : hdrLen c1.buf.data ≤ c1.buf.data.length := by omega
  have i3 : (bump c1.buf (hdrLen c1.buf.data : Nat)).Inv := bump_inv i1 (le_wi i1 lh)
  rw [hD, decodeBody_closed c1 cap' i1 hmax, if_neg (Nat.not_lt.mpr l2), if_neg (Nat.not_lt.mpr (Nat.le_trans hh lh)),
    if_neg (Int.not_lt.mpr hd), if_neg (Nat.not_lt.mpr lh),
    readPayload_eq c1 cap' i3 hd hmax rfl, if_neg (by omega), ← hn]
  exact ⟨_, rfl, ⟨bump_inv i3 (le_wi i1 ln), by show 14 ≤ c1.buf.cap; omega, hmax2,
    fun _ => ⟨by dsimp only; omega, bump_ri_ge _ _⟩⟩, rfl, rfl, rfl, rfl, k1⟩

theorem decode_tooBig {c : Codec} (cap' : Int) (hI : c.Inv) (hp : parse c.max c.unconsumed = .tooBig) :
    ∃ c', c.Decode cap' = .ok (c', .tooBig, none) ∧ c'.Inv ∧ c'.reset = false ∧
      c'.buf.data = c.unconsumed ∧ c'.max = c.max ∧ c'.buf.cap = c.buf.cap := by
  obtain ⟨c1, hD, i1, r1, d1, m1, k1⟩ := decode_reset cap' hI
  have hmax := hI.max_le
  obtain ⟨_, hcap, hmax2, _⟩ := hI
  rw [← m1] at hmax hmax2 hp ⊢
  rw [← d1] at hp ⊢
  have nr : ¬ c1.reset = true := by rw [r1]; exact Bool.false_ne_true
  obtain ⟨l2, le, hd⟩ := parse_tooBig hp
  rw [hD, decodeBody_closed c1 cap' i1 hmax, if_neg (Nat.not_lt.mpr l2), if_neg (Nat.not_lt.mpr le), if_pos hd]
  exact ⟨_, rfl, ⟨bump_inv i1 (le_wi i1 le), by show 14 ≤ c1.buf.cap; omega, hmax2, fun h => absurd h nr⟩, r1, rfl, rfl, k1⟩

theorem decode_needMore {c : Codec} (cap' : Int) (hI : c.Inv) (hp : parse c.max c.unconsumed = .needMore) :
    c.Decode cap' = .error .env ∨
    ∃ c' g, c.Decode cap' = .ok (c', .needMore, g) ∧ c'.Inv ∧ c'.reset = false ∧ c'.buf.data = c.unconsumed ∧ c'.max = c.max ∧
      0 < c'.buf.cap - c'.buf.wi ∧ (∀ k, g = some k → 0 ≤ k ∧ k ≤ c.max) := by
  obtain ⟨c1, hD, i1, r1, d1, m1, k1⟩ := decode_reset cap' hI
  have hmax := hI.max_le
  obtain ⟨_, hcap, hmax2, _⟩ := hI
  rw [← m1] at hmax hmax2 hp ⊢
  rw [← d1] at hp ⊢
  have nr : ¬ c1.reset = true := by rw [r1]; exact Bool.false_ne_true
  have h5 : (c1.buf.data.length : Int) = c1.buf.wi := i1.2.2.2.2.2
  have h14 := hdrLen_le c1.buf.data
  have hh := ext_le_hdrLen c1.buf.data
  -- a buffer that differs from the one after the reset in its read area (and, after `Reserve`, in its capacity)
  have done : ∀ {B : Buf} (g : Option Int), B.Inv → B.data = c1.buf.data → c1.buf.cap ≤ B.cap → 0 < B.cap - B.wi →
      (∀ k, g = some k → 0 ≤ k ∧ k ≤ c1.max) →
      ∃ c' g', (.ok ({ c1 with buf := B, frameLen := 0 }, Decoded.needMore, g) : M (Codec × Decoded × Option Int)) =
          .ok (c', .needMore, g') ∧ c'.Inv ∧ c'.reset = false ∧ c'.buf.data = c1.buf.data ∧ c'.max = c1.max ∧
        0 < c'.buf.cap - c'.buf.wi ∧ (∀ k, g' = some k → 0 ≤ k ∧ k ≤ c1.max) :=
    fun {B} g bi bd bc bp bg => ⟨_, g, rfl, ⟨bi, by show 14 ≤ B.cap; omega, hmax2, fun h => absurd h nr⟩, r1, bd, rfl, bp, bg⟩
  -- an incomplete header: there is room for the rest of it
  have room : c1.buf.data.length < hdrLen c1.buf.data → 0 < c1.buf.cap - c1.buf.wi := fun hlt => by omega
  have nog : ∀ k, (none : Option Int) = some k → 0 ≤ k ∧ k ≤ c1.max := fun k hk => by cases hk
  rw [hD, decodeBody_closed c1 cap' i1 hmax]
  by_cases c1' : c1.buf.data.length < 2
  · rw [if_pos c1']; exact Or.inr (done none i1 rfl (Int.le_refl _) (room (Nat.lt_of_lt_of_le c1' (hdrLen_ge _))) nog)
  have l2 := Nat.le_of_not_lt c1'
  by_cases c2 : c1.buf.data.length < 2 + extLen (byteAt c1.buf.data 1)
  · rw [if_neg c1', if_pos c2]; exact Or.inr (done none (bump_inv i1 (le_wi i1 l2)) rfl (Int.le_refl _) (room (Nat.lt_of_lt_of_le c2 hh)) nog)
  have le := Nat.le_of_not_lt c2
  by_cases c3 : (declLen c1.buf.data : Int) > c1.max
  · rw [parse_tooBig_of le c3] at hp; cases hp
  have hd := Int.not_lt.mp c3
  by_cases c4 : c1.buf.data.length < hdrLen c1.buf.data
  · rw [if_neg c1', if_neg c2, if_neg c3, if_pos c4]; exact Or.inr (done none (bump_inv i1 (le_wi i1 le)) rfl (Int.le_refl _) (room c4) nog)
  have lh := Nat.le_of_not_lt c4
  have i3 : (bump c1.buf (hdrLen c1.buf.data : Nat)).Inv := bump_inv i1 (le_wi i1 lh)
  rw [if_neg c1', if_neg c2, if_neg c3, if_neg c4, readPayload_eq c1 cap' i3 hd hmax rfl]
  by_cases c5 : c1.buf.data.length < hdrLen c1.buf.data + declLen c1.buf.data
  · rw [if_pos c5]
    rcases reserve_cases (declLen c1.buf.data : Nat) cap' i3 (by show c1.buf.wi + _ ≤ _; omega) with
      he | ⟨B, hB, bi, bd, bw, br, bc, bn, _⟩
    · left; rw [he]; rfl
    · right
      rw [hB]
      have : B.wi = c1.buf.wi := bw
      exact done _ bi bd bc (by omega) (fun k hk => by cases hk; omega)
  · rw [parse_frame_of hd (Nat.le_of_not_lt c5)] at hp; cases hp

end Sonic.Model.WsFrame
