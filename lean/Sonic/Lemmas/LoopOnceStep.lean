/-
The reference count of every operation evolves as it should under every transition of the loop model:
it grows only at the call that starts the operation (and when a repeating timer is re-armed after its callback),
and every callback entry consumes one reference.
-/
import Sonic.Lemmas.LoopOnce
import Sonic.Lemmas.LoopStep

namespace Sonic.Model.Loop
open Sonic.Spec.Loop (Ev Ret Res OpKind ObjKind maxDispatch)

def entersOf (x : Nat) : Ev → Int
  | .enter op _ _ _ _ => if op = x then 1 else 0
  | _ => 0

def startsOf (x : Nat) : Ev → Int
  | .callStart op _ _ _ => if op = x then 1 else 0
  | .callSched op _ _ _ => if op = x then 1 else 0
  | .callPost op => if op = x then 1 else 0
  | _ => 0

def rearmsOf (x : Nat) (w : World) : Ev → Int
  | .exit op => match w.stack with
    | .user op' (.timerDone _ true _) :: _ => if op = x ∧ op' = x then 1 else 0
    | _ => 0
  | _ => 0

theorem frameRefs_cons (x : Nat) (k : K) (r : List K) : frameRefs x (k :: r) = frameRef x k + frameRefs x r := rfl

theorem rearmsOf_nonneg (x : Nat) (w : World) (e : Ev) : 0 ≤ rearmsOf x w e := by
  unfold rearmsOf
  split
  · split
    · exact ind_nonneg _
    · exact Int.le_refl 0
  · exact Int.le_refl 0

theorem refs_drops {w : World} {k : K} {e : Ev} (x : Nat) (h : Drops w k e) :
    entersOf x e = 0 ∧ startsOf x e = 0 ∧ rearmsOf x w e = 0 := by
  cases h <;> exact ⟨rfl, rfl, rfl⟩

theorem refs_pushes {e : Ev} {k : K} (x : Nat) (w : World) (h : Pushes e k) :
    frameRef x k = 0 ∧ entersOf x e = 0 ∧ startsOf x e = 0 ∧ rearmsOf x w e = 0 := by
  cases h <;> exact ⟨rfl, rfl, rfl, rfl⟩

/-- **Reference accounting under every transition.**  The starting call pushes a frame that holds the reference; the frame
hands it to the callback it runs inside the call, or to the object (`setRead`, `setWrite`, `armTimer`) or the post queue when the call returns; the poller and `Cancel`
take it from there when they enter the callback. -/
theorem step_refs (x : Nat) (w w' : World) (e : Ev) (hn : (ids w.objs).Nodup) (h : step w e = some w') :
    refs w' x + entersOf x e ≤ refs w x + startsOf x e + rearmsOf x w e := by
  cases step_sound h with
  | newObj hstk hfresh =>
    simp only [refs, objRefs, objRef, entersOf, startsOf, rearmsOf, Bool.false_eq_true, false_and, if_false]
    omega
  | @exit op a rest _ hstk hrule =>
    have hR := ind_nonneg (op = x)
    cases hrule with
    | none | decDisp | postDone => simp only [refs, hstk, frameRefs_cons, frameRef, entersOf, startsOf, rearmsOf]; omega
    | timerGone | timerOnce | timerBusy =>
      have := rearmsOf_nonneg x w (.exit op)
      simp only [refs, hstk, frameRefs_cons, frameRef, entersOf, startsOf]; omega
    | @timerStop _ _ o hobj =>
      have := objRefs_setObj_same (w := { w with stack := rest }) x { o with cancelled := false } hn hobj rfl rfl
      simp only [refs, hstk, frameRefs_cons, frameRef, entersOf, startsOf, rearmsOf, and_self, setObj_stack,
        setObj_posts] at this ⊢
      omega
    | timerRearm hobj =>
      have := objRefs_armTimer_le (w := { w with stack := rest }) x op true hn hobj
      simp only [refs, hstk, frameRefs_cons, frameRef, entersOf, startsOf, rearmsOf, and_self, armTimer_stack,
        armTimer_posts] at this ⊢
      omega
  | cancel hstk hrule =>
    cases hrule with
    | read hobj hcan hset hphase hhandler =>
      have := objRefs_delRead x hn hobj
      simp only [refs, hstk, frameRefs_cons, frameRef, entersOf, startsOf, rearmsOf, delRead_posts, hset, hhandler,
        true_and] at this ⊢
      omega
    | write hobj hcan hnoread hset hphase hhandler =>
      have := objRefs_delWrite x hn hobj
      simp only [refs, hstk, frameRefs_cons, frameRef, entersOf, startsOf, rearmsOf, delWrite_posts, hset, hhandler,
        true_and] at this ⊢
      omega
    | done => simp only [refs, hstk, frameRefs_cons, frameRef, entersOf, startsOf, rearmsOf]; omega
  | inline hstk | startFail hstk =>
    simp only [refs, hstk, frameRefs_cons, frameRef, entersOf, startsOf, rearmsOf]; omega
  | @deferRead op _ _ _ _ _ hstk hobj =>
    have := objRefs_setRead_le x op hn hobj
    simp only [refs, hstk, frameRefs_cons, frameRef, entersOf, startsOf, rearmsOf, setRead_posts]; omega
  | @deferWrite op _ _ _ _ _ hstk hobj =>
    have := objRefs_setWrite_le x op hn hobj
    simp only [refs, hstk, frameRefs_cons, frameRef, entersOf, startsOf, rearmsOf, setWrite_posts]; omega
  | close hstk hobj =>
    have := objRefs_closeObj_le x hn hobj
    simp only [refs, hstk, frameRefs_cons, frameRef, entersOf, startsOf, rearmsOf, closeObj_posts]; omega
  | schedNow hstk hobj honce hzero hready hkind =>
    rename_i o
    have := objRefs_setObj_same x { o with cancelled := false } hn hobj rfl rfl
    simp only [refs, hstk, frameRefs_cons, frameRef, entersOf, startsOf, rearmsOf, setObj_posts]; omega
  | @arm op _ rep _ _ _ hstk hobj =>
    have := objRefs_armTimer_le x op rep hn hobj
    simp only [refs, hstk, frameRefs_cons, frameRef, entersOf, startsOf, rearmsOf, armTimer_posts]; omega
  | @tcancel _ _ o hstk hobj =>
    have := objRefs_clearRead_le (w := unsetPending w o) x
      { o with evR := false, cancelled := true, cancels := o.cancels + 1, tstate := .ready } hn hobj rfl rfl rfl rfl
    simp only [refs, hstk, frameRefs_cons, frameRef, entersOf, startsOf, rearmsOf, setObj_posts, unsetPending_posts,
      unsetPending_objs] at this ⊢
    omega
  | posted hstk =>
    simp only [refs, hstk, frameRefs_cons, frameRef, entersOf, startsOf, rearmsOf, postRefs_append, postRefs]; omega
  | poll hstk hrule =>
    cases hrule with
    | post hop hkind hqueue =>
      simp only [refs, hstk, hqueue, frameRefs_cons, frameRef, entersOf, startsOf, rearmsOf, postRefs]; omega
    | @timer _ o _ _ hobj _ hset hhandler =>
      have := objRefs_setObj (w := { w with pending := w.pending - 1 }) x { o with evR := false, tstate := .ready } hn hobj rfl
      simp only [refs, hstk, frameRefs_cons, frameRef, entersOf, startsOf, rearmsOf, setObj_posts, objRef, hset, hhandler,
        true_and, Bool.false_eq_true, false_and, if_false] at this ⊢
      omega
    | read hop hnopost hnotimer hobj hokind hdir hset hhandler =>
      have := objRefs_delRead x hn hobj
      simp only [refs, hstk, frameRefs_cons, frameRef, entersOf, startsOf, rearmsOf, delRead_posts, hset, hhandler,
        true_and] at this ⊢
      omega
    | write hop hnopost hnotimer hobj hokind hdir hset hhandler =>
      have := objRefs_delWrite x hn hobj
      simp only [refs, hstk, frameRefs_cons, frameRef, entersOf, startsOf, rearmsOf, delWrite_posts, hset, hhandler,
        true_and] at this ⊢
      omega
  | @pop k _ _ hstk hdrop =>
    obtain ⟨hE, hS, hR⟩ := refs_drops x hdrop
    have := frameRef_nonneg x k
    simp only [refs, hstk, frameRefs_cons, hE, hS, hR]; omega
  | push huser hcall =>
    obtain ⟨hF, hE, hS, hR⟩ := refs_pushes x w hcall
    simp only [refs, push, frameRefs_cons, hF, hE, hS, hR]; omega
  | callStart | callSched | callPost | setDisp =>
    simp only [refs, frameRefs_cons, frameRef, entersOf, startsOf, rearmsOf]; omega

end Sonic.Model.Loop
