/-
C09, per method: under the coupling `R`, what each method of the implementation model returns and
the coupling of the new state with the specification's new lists.

The equations of a clamp (`clamp_pos`) are cleared once they have been used: the arithmetic closers read every
hypothesis in scope.  Linear goals are closed by `lia` (`omega` in the write loop), whichever is the faster to check there.
-/
import Sonic.Lemmas.ByteBufferFacts

namespace Sonic.Props.C09
open Sonic.Spec.ByteBuffer Sonic.Model.ByteBuffer

variable {b : BB} {s : S}

theorem commit_spec (hR : R b s) (n : Int) :
    R (b.Commit n) { s with readable := s.readable ++ s.pending.take n.toNat, pending := s.pending.drop n.toNat } := by
  unfold BB.Commit
  by_cases hn0 : n ≤ 0
  · rw [if_pos hn0, Int.toNat_of_nonpos hn0, List.take_zero, List.drop_zero, List.append_nil]
    exact hR
  · obtain ⟨h1, h2, h3, h4, h5, h6, h7, h8⟩ := hR
    rw [if_neg hn0, Go.sub_eq (by lia)]
    dsimp only
    obtain ⟨m, hm, hm1, hm2, hm3, -⟩ := clamp_pos n s.pending (by lia)
    rw [show b.wi - b.ri = (s.pending.length : Int) by lia, hm, hm2, hm3]
    clear hm hm2 hm3 hn0
    rw [Go.add_eq (by lia)]
    refine ⟨h1, ?_, ?_, ?_, h5, h6, h7, h8⟩
    · show b.ri + m = (s.saved.length : Int) + (s.readable ++ s.pending.take m).length
      rw [List.length_append, List.length_take]; lia
    · show b.wi = (s.saved.length : Int) + (s.readable ++ s.pending.take m).length + (s.pending.drop m).length
      rw [List.length_append, List.length_take, List.length_drop]; lia
    · show b.data = s.saved ++ (s.readable ++ s.pending.take m) ++ s.pending.drop m
      rw [h4]; simp only [List.append_assoc, List.take_append_drop]

theorem consume_spec (hR : R b s) (n : Int) :
    ∃ b', b.Consume n = some b' ∧ R b' { s with readable := s.readable.drop n.toNat } := by
  unfold BB.Consume
  by_cases hn0 : n ≤ 0
  · rw [if_pos hn0, Int.toNat_of_nonpos hn0, List.drop_zero]
    exact ⟨_, rfl, hR⟩
  · rw [if_neg hn0, readLen_R hR]
    dsimp only
    obtain ⟨m, hm, hm1, hm2, -, -⟩ := clamp_pos n s.readable (by lia)
    rw [hm, hm2]
    clear hm hm2 hn0
    by_cases hm0 : m = 0
    · subst hm0
      rw [if_neg (by lia), List.drop_zero]
      exact ⟨_, rfl, hR⟩
    · have hlen := hR.wi_eq_len
      obtain ⟨h1, h2, h3, h4, h5, h6, h7, h8⟩ := hR
      have hc : 0 ≤ b.wi - m ∧ b.wi - m ≤ b.cap := by lia
      rw [if_pos (by lia), Go.add_eq (by lia), Go.sub_eq (by lia), Go.sub_eq (by lia),
        if_pos (by unfold BB.len BB.sliceOk; lia), reslice_eq hc]
      refine ⟨_, rfl, h1, ?_, ?_, ?_, hc.2, h6, h7, h8⟩
      · show b.ri - m = (s.saved.length : Int) + (s.readable.drop m).length
        rw [List.length_drop]; lia
      · show b.wi - m = (s.saved.length : Int) + (s.readable.drop m).length + s.pending.length
        rw [List.length_drop]; lia
      · show (copyWithin b.data b.si.toNat (b.si + m).toNat b.wi.toNat).take (b.wi - m).toNat
            = s.saved ++ s.readable.drop m ++ s.pending
        have hY : (s.readable.take m).length = m := by rw [List.length_take]; lia
        rw [h4, ← List.take_append_drop m s.readable, List.append_assoc s.saved, List.append_assoc _ _ s.pending,
          ← List.append_assoc s.saved, remove_eq h1 (by rw [hY, h1])
            (by rw [hY, h3, List.length_append, List.length_drop]; lia) (by rw [h3, List.length_append, List.length_drop]; lia),
          List.take_append_drop, List.append_assoc]

theorem save_spec (hR : R b s) (n : Int) :
    ∃ b' i l, b.Save n = some (b', i, l) ∧
      R b' { s with saved := s.saved ++ s.readable.take n.toNat, readable := s.readable.drop n.toNat } ∧
      Ret.slot i l = (if (s.readable.take n.toNat).length = 0 then Ret.slot 0 0
                      else Ret.slot s.saved.length (s.readable.take n.toNat).length) := by
  unfold BB.Save
  rw [readLen_R hR]
  dsimp only
  by_cases hn0 : n ≤ 0
  · have e : (if n > (s.readable.length : Int) then (s.readable.length : Int) else n) = n := if_neg (by lia)
    rw [e, if_pos hn0, Int.toNat_of_nonpos hn0, List.take_zero, List.drop_zero, List.append_nil]
    exact ⟨_, _, _, rfl, hR, by simp⟩
  · obtain ⟨m, hm, hm1, hm2, hm3, -⟩ := clamp_pos n s.readable (by lia)
    rw [hm, hm2, hm3]
    clear hm hm2 hm3 hn0
    have hlen : (s.readable.take m).length = m := by rw [List.length_take]; lia
    by_cases hm0 : m = 0
    · subst hm0
      rw [if_pos (by lia), List.take_zero, List.drop_zero, List.append_nil]
      exact ⟨_, _, _, rfl, hR, by simp⟩
    · obtain ⟨h1, h2, h3, h4, h5, h6, h7, h8⟩ := hR
      rw [if_neg (by lia), Go.add_eq (by lia)]
      refine ⟨_, _, _, rfl, ⟨?_, ?_, ?_, ?_, h5, h6, h7, h8⟩, ?_⟩
      · show b.si + m = ((s.saved ++ s.readable.take m).length : Int)
        rw [List.length_append, hlen]; lia
      · show b.ri = ((s.saved ++ s.readable.take m).length : Int) + (s.readable.drop m).length
        rw [List.length_append, hlen, List.length_drop]; lia
      · show b.wi = ((s.saved ++ s.readable.take m).length : Int) + (s.readable.drop m).length + s.pending.length
        rw [List.length_append, hlen, List.length_drop]; lia
      · show b.data = s.saved ++ s.readable.take m ++ s.readable.drop m ++ s.pending
        rw [h4]; simp only [List.append_assoc, List.take_append_drop]
      · rw [hlen, if_neg (by lia), h1]

theorem discard_spec (hR : R b s) (idx len : Int) (hl : 0 < len) (hv : ValidSlot s idx len) :
    ∃ b', b.Discard idx len = some (b', len) ∧
      R b' { s with saved := s.saved.take idx.toNat ++ s.saved.drop (idx + len).toNat } := by
  have hlen := hR.wi_eq_len
  obtain ⟨h1, h2, h3, h4, h5, h6, h7, h8⟩ := hR
  obtain ⟨v1, v2, v3⟩ := hv
  have hc : 0 ≤ b.wi - len ∧ b.wi - len ≤ b.cap := by lia
  unfold BB.Discard
  rw [if_neg (Int.not_le.mpr hl), Go.add_eq (by lia)]
  dsimp only
  rw [if_pos (by unfold BB.len BB.sliceOk; lia), Go.sub_eq (by lia), Go.sub_eq (by lia), Go.sub_eq (by lia),
    reslice_eq hc]
  refine ⟨_, rfl, ?_⟩
  obtain ⟨i, rfl⟩ := Int.eq_ofNat_of_zero_le v1
  obtain ⟨k, rfl⟩ := Int.eq_ofNat_of_zero_le v2
  rw [← Int.natCast_add, Int.toNat_natCast, Int.toNat_natCast]
  have hA : (s.saved.take i).length = i := by rw [List.length_take]; lia
  have hB : ((s.saved.drop i).take k).length = k := by rw [List.length_take, List.length_drop]; lia
  have hC : ((s.saved.drop (i + k)).length : Int) = s.saved.length - (i + k) := by rw [List.length_drop]; lia
  refine ⟨?_, ?_, ?_, ?_, hc.2, h6, h7, h8⟩
  · show b.si - k = ((s.saved.take i ++ s.saved.drop (i + k)).length : Int)
    rw [List.length_append, hA, Int.natCast_add, hC]; lia
  · show b.ri - k = ((s.saved.take i ++ s.saved.drop (i + k)).length : Int) + s.readable.length
    rw [List.length_append, hA, Int.natCast_add, hC]; lia
  · show b.wi - k = ((s.saved.take i ++ s.saved.drop (i + k)).length : Int) + s.readable.length + s.pending.length
    rw [List.length_append, hA, Int.natCast_add, hC]; lia
  · show (copyWithin b.data (i : Int).toNat ((i : Int) + k).toNat b.wi.toNat).take (b.wi - k).toNat
        = s.saved.take i ++ s.saved.drop (i + k) ++ s.readable ++ s.pending
    have hsplit : s.saved ++ s.readable ++ s.pending
        = s.saved.take i ++ (s.saved.drop i).take k ++ (s.saved.drop (i + k) ++ s.readable ++ s.pending) := by
      conv => lhs; rw [split3 s.saved i k]
      simp only [List.append_assoc]
    rw [h4, hsplit, remove_eq (by rw [hA]) (by rw [hA, hB])
        (by rw [hA, hB, h3]; simp only [List.length_append, Int.natCast_add, hC]; lia)
        (by rw [hA, h3]; simp only [List.length_append, Int.natCast_add, hC]; lia)]
    simp only [List.append_assoc]

theorem discardAll_spec (hR : R b s) :
    ∃ b', b.DiscardAll = some b' ∧ R b' { s with saved := [] } := by
  unfold BB.DiscardAll
  rw [saveLen_R hR]
  dsimp only
  by_cases h0 : s.saved = []
  · unfold BB.Discard
    rw [if_pos (by rw [h0]; exact Int.le_refl 0)]
    refine ⟨_, rfl, ?_⟩
    rw [← h0]; exact hR
  · have hpos : 0 < (s.saved.length : Int) := Int.natCast_pos.mpr (List.length_pos_iff.mpr h0)
    obtain ⟨b', hb, hR'⟩ := discard_spec hR 0 s.saved.length hpos ⟨Int.le_refl 0, Int.natCast_nonneg _, by rw [Int.zero_add]; exact Int.le_refl _⟩
    rw [hb]
    refine ⟨b', rfl, ?_⟩
    rw [Int.zero_add, Int.toNat_natCast, Int.toNat_zero, List.take_zero, List.drop_of_length_le (Nat.le_refl _)] at hR'
    exact hR'

theorem savedSlot_spec (hR : R b s) (idx len : Int) (hv : ValidSlot s idx len) :
    b.SavedSlot idx len = some (some ((s.saved.drop idx.toNat).take len.toNat)) := by
  have hlen := hR.wi_eq_len
  obtain ⟨h1, h2, h3, h4, h5, h6, h7, h8⟩ := hR
  obtain ⟨v1, v2, v3⟩ := hv
  unfold BB.SavedSlot
  rw [Go.add_eq (by lia)]
  dsimp only
  rw [if_pos (by unfold BB.sliceOk; lia), if_pos (by unfold BB.len; lia)]
  unfold BB.bytes
  obtain ⟨i, rfl⟩ := Int.eq_ofNat_of_zero_le v1
  obtain ⟨k, rfl⟩ := Int.eq_ofNat_of_zero_le v2
  rw [← Int.natCast_add, Int.toNat_natCast, Int.toNat_natCast, Int.toNat_natCast, h4, List.append_assoc,
    List.take_append_of_le_length (by lia), List.take_drop]

theorem reset_spec (hR : R b s) :
    ∃ b', b.Reset = some b' ∧ R b' { s with saved := [], readable := [], pending := [] } := by
  obtain ⟨i0, i1, i2, _, i4, i5⟩ := idx_R hR
  have hc : 0 ≤ b.cap := by lia
  unfold BB.Reset
  rw [reslice_eq ⟨Int.le_refl 0, hc⟩]
  exact ⟨_, rfl, rfl, rfl, rfl, rfl, hc, i5, hR.cap_eq, hR.not_void⟩

theorem read_spec (hR : R b s) (dstLen : Nat) (h0 : dstLen ≠ 0) (hne : s.readable ≠ []) :
    ∃ b', b.Read dstLen = some (b', ((s.readable.take dstLen).length : Int), s.readable.take dstLen, .nil) ∧
      R b' { s with readable := s.readable.drop dstLen } := by
  obtain ⟨i0, i1, i2, _, i4, _⟩ := idx_R hR
  have hpos := List.length_pos_iff.mpr hne
  unfold BB.Read
  rw [if_neg h0, if_neg (by rw [hR.2.1, hR.1]; lia), if_pos ⟨i0, i1, Int.le_trans i2 i4⟩, (bytes_R hR).2.1]
  dsimp only
  obtain ⟨b', hb, hR'⟩ := consume_spec hR ((s.readable.take dstLen).length : Int)
  rw [hb]
  refine ⟨b', rfl, ?_⟩
  rw [Int.toNat_natCast, List.length_take, drop_min_length] at hR'
  exact hR'

theorem read_zero : b.Read 0 = some (b, 0, [], .nil) := by
  unfold BB.Read; rw [if_pos rfl]

theorem read_eof (hR : R b s) (dstLen : Nat) (h0 : dstLen ≠ 0) (he : s.readable = []) :
    b.Read dstLen = some (b, 0, [], .eof) := by
  unfold BB.Read
  rw [if_neg h0, if_pos (by rw [hR.2.1, hR.1, he]; exact Int.add_zero _)]

theorem readFrom_ok (hR : R b s) (n : Nat) (seed : UInt8) :
    ∃ b', b.ReadFrom n seed .nil = some (b', ((min n s.room.toNat : Nat) : Int), .nil) ∧
      R b' { s with pending := s.pending ++ pattern seed (min n s.room.toNat) } := by
  obtain ⟨i0, i1, i2, _, i4, i5⟩ := idx_R hR
  unfold BB.ReadFrom
  rw [if_pos (sliceOk_room hR), if_pos rfl, Go.sub_eq (by lia), ← room_R hR]
  dsimp only
  generalize hk : min n s.room.toNat = k
  have hc : 0 ≤ b.wi + k ∧ b.wi + k ≤ b.cap := by have := room_R hR; lia
  rw [Go.add_eq (by lia), reslice_eq hc]
  exact ⟨_, rfl, R_push hR _ (by rw [length_pattern]) hc.2⟩

theorem readFrom_err (hR : R b s) (n : Nat) (seed : UInt8) (e : Err) (he : e ≠ .nil) :
    b.ReadFrom n seed e = some (b, (n : Int), e) := by
  unfold BB.ReadFrom
  rw [if_pos (sliceOk_room hR), if_neg he]

theorem unreadByte_eof (hR : R b s) (hp : s.pending = []) :
    b.UnreadByte = some (b, .eof) := by
  unfold BB.UnreadByte
  rw [writeLen_R hR]
  dsimp only
  rw [if_neg (by rw [hp]; exact Int.lt_irrefl 0)]

theorem unreadByte_ok (hR : R b s) (hp : s.pending ≠ []) :
    ∃ b', b.UnreadByte = some (b', .nil) ∧ R b' { s with pending := s.pending.dropLast } := by
  have hpos := List.length_pos_iff.mpr hp
  obtain ⟨i0, i1, i2, _, i4, i5⟩ := idx_R hR
  have hw := hR.2.2.1
  unfold BB.UnreadByte
  rw [writeLen_R hR]
  dsimp only
  rw [if_pos (by lia), Go.sub_eq (by lia), reslice_eq (by lia),
    List.dropLast_eq_take]
  exact ⟨_, rfl, R_pop hR 1 hpos⟩

theorem append_spec (hR : R b s) (bs : List UInt8) (c : Int) (hc : c ≤ Go.I64MAX)
    (hfit : s.len + bs.length ≤ Go.I64MAX) :
    ∃ b', b.Append bs c = some b' ∧ R b' { s with pending := s.pending ++ bs, cap := b'.cap } := by
  have hlen := len_R hR
  have hwi := wi_R hR
  obtain ⟨i0, i1, i2, _, i4, i5⟩ := idx_R hR
  unfold BB.Append
  dsimp only
  rw [Go.add_eq (by lia)]
  generalize hcap : (if b.len + (bs.length : Int) ≤ b.cap then b.cap else imax c (b.len + bs.length)) = cap'
  have hc' : b.wi + bs.length ≤ cap' ∧ cap' ≤ Go.I64MAX := by
    rw [← hcap]; unfold imax
    split
    · lia
    · split <;> lia
  rw [reslice_eq ⟨by lia, hc'.1⟩]
  exact ⟨_, rfl, R_push (R_cap hR cap' (by lia) hc'.2) bs rfl hc'.1⟩

theorem prepareRead_spec (hR : R b s) (n : Int) (hn : Go.InI64 n) :
    b.PrepareRead n = if n ≤ s.readable.length then some (b, .nil)
      else if n - s.readable.length ≤ s.pending.length then some (b.Commit (n - s.readable.length), .nil)
      else some (b, .needMore) := by
  have hr : (s.readable.length : Int) ≤ Go.I64MAX := by
    obtain ⟨i0, i1, i2, _, i4, i5⟩ := idx_R hR
    have := hR.2.1; lia
  unfold BB.PrepareRead
  rw [readLen_R hR]
  dsimp only
  by_cases h1 : n ≤ s.readable.length
  · rw [if_neg (Int.not_lt.mpr h1), if_pos h1]
  · rw [if_pos (Int.not_le.mp h1), if_neg h1, writeLen_R hR, Go.sub_eq (by unfold Go.InI64 Go.I64MIN at hn; lia)]

theorem claim_ok (hR : R b s) (ret : Int) (seed : UInt8) (hfit : 0 ≤ ret ∧ ret ≤ s.room) :
    ∃ b', b.Claim ret seed = some b' ∧ R b' { s with pending := s.pending ++ pattern seed ret.toNat } := by
  have hroom := room_R hR
  obtain ⟨i0, i1, i2, _, i4, i5⟩ := idx_R hR
  have hc : 0 ≤ b.wi + ret ∧ b.wi + ret ≤ b.cap := by lia
  unfold BB.Claim
  rw [if_pos (sliceOk_room hR), Go.sub_eq (by lia), if_pos (by lia), Go.add_eq (by lia)]
  dsimp only
  rw [reslice_eq hc]
  exact ⟨_, rfl, R_push hR _ (by rw [length_pattern, Int.toNat_of_nonneg hfit.1]) hc.2⟩

theorem claim_rejected (hR : R b s) (ret : Int) (seed : UInt8)
    (hfit : ¬ (0 ≤ ret ∧ ret ≤ s.room)) : b.Claim ret seed = some b := by
  have hroom := room_R hR
  obtain ⟨i0, i1, i2, _, i4, i5⟩ := idx_R hR
  unfold BB.Claim
  rw [if_pos (sliceOk_room hR), Go.sub_eq (by lia), if_neg (by lia)]

theorem claimFixed_ok (hR : R b s) (n : Int) (seed : UInt8) (hfit : 0 ≤ n ∧ n ≤ s.room) :
    ∃ b', b.ClaimFixed n seed = some (b', n) ∧ R b' { s with pending := s.pending ++ pattern seed n.toNat } := by
  have hroom := room_R hR
  obtain ⟨i0, i1, i2, _, i4, i5⟩ := idx_R hR
  have hc : 0 ≤ b.wi + n ∧ b.wi + n ≤ b.cap := by lia
  unfold BB.ClaimFixed
  rw [Go.sub_eq (by lia), if_pos (by lia), Go.add_eq (by lia)]
  dsimp only
  rw [if_pos (by unfold BB.sliceOk; lia), reslice_eq hc, Go.sub_eq (by lia)]
  dsimp only
  rw [show b.wi + n - b.wi = n by lia]
  exact ⟨_, rfl, R_push hR _ (by rw [length_pattern, Int.toNat_of_nonneg hfit.1]) hc.2⟩

theorem claimFixed_rejected (hR : R b s) (n : Int) (seed : UInt8)
    (hfit : ¬ (0 ≤ n ∧ n ≤ s.room)) : b.ClaimFixed n seed = some (b, 0) := by
  have hroom := room_R hR
  obtain ⟨i0, i1, i2, _, i4, i5⟩ := idx_R hR
  unfold BB.ClaimFixed
  rw [Go.sub_eq (by lia), if_neg (by lia)]

theorem shrinkBy_spec (hR : R b s) (n : Int) :
    ∃ b', b.ShrinkBy n = some (b', ((min n.toNat s.pending.length : Nat) : Int)) ∧
      R b' { s with pending := s.pending.take (s.pending.length - min n.toNat s.pending.length) } := by
  unfold BB.ShrinkBy
  by_cases hn0 : n ≤ 0
  · rw [if_pos hn0, Int.toNat_of_nonpos hn0, Nat.zero_min, Nat.sub_zero, List.take_of_length_le (Nat.le_refl _)]
    exact ⟨_, rfl, hR⟩
  · rw [if_neg hn0, writeLen_R hR]
    dsimp only
    obtain ⟨m, hm, hm1, -, -, hm5⟩ := clamp_pos n s.pending (by lia)
    obtain ⟨i0, i1, i2, _, i4, i5⟩ := idx_R hR
    have hw := hR.2.2.1
    rw [hm, ← hm5]
    clear hm hm5 hn0
    rw [Go.sub_eq (by lia), reslice_eq (by lia)]
    exact ⟨_, rfl, R_pop hR m hm1⟩

theorem shrinkTo_spec (hR : R b s) (n : Int) (hn : Go.InI64 n) :
    ∃ b', b.ShrinkTo n = some (b', (s.pending.length : Int) - (s.pending.take n.toNat).length) ∧
      R b' { s with pending := s.pending.take n.toNat } := by
  have hpl : (s.pending.length : Int) ≤ Go.I64MAX := by
    obtain ⟨i0, i1, i2, _, i4, i5⟩ := idx_R hR
    have := hR.2.2.1; lia
  unfold BB.ShrinkTo
  rw [writeLen_R hR]
  dsimp only
  generalize hn' : (if n < 0 then 0 else n) = n'
  have hn1 : 0 ≤ n' ∧ n'.toNat = n.toNat ∧ n' ≤ Go.I64MAX := by
    unfold Go.InI64 at hn
    rw [← hn']; split <;> lia
  rw [Go.sub_eq (by lia)]
  obtain ⟨b', hb, hR'⟩ := shrinkBy_spec hR ((s.pending.length : Int) - n')
  have e : s.pending.length - min ((s.pending.length : Int) - n').toNat s.pending.length = min n.toNat s.pending.length := by
    lia
  rw [e, take_min_length] at hR'
  rw [hb, List.length_take, ← e]
  exact ⟨b', by congr 3; lia, hR'⟩

theorem reserve_spec (hR : R b s) (n c : Int) (hn : Go.InI64 n) (hc : c ≤ Go.I64MAX)
    (hal : ¬ BeyondAlloc s n) (hfit : s.len + n ≤ Go.I64MAX) :
    ∃ b', b.Reserve n c = some b' ∧ R b' { s with cap := b'.cap } ∧ n ≤ b'.cap - s.len := by
  have hroom := room_R hR
  have hwi := wi_R hR
  unfold BeyondAlloc at hal
  obtain ⟨i0, i1, i2, i3, i4, i5⟩ := idx_R hR
  have htake : b.data.take b.wi.toNat = b.data := List.take_of_length_le (by lia)
  have h0 : 0 ≤ b.wi := by lia
  unfold BB.Reserve
  rw [Go.sub_eq (by lia)]
  dsimp only
  by_cases hg : n > b.cap - b.wi
  · rw [if_pos hg, Go.sub_eq (by unfold Go.InI64 Go.I64MIN at hn; lia), if_neg (by lia)]
    generalize hcap : imax c (b.cap + (n - (b.cap - b.wi))) = cap'
    have hc' : b.wi + n ≤ cap' ∧ cap' ≤ Go.I64MAX := by
      rw [← hcap]; unfold imax; split <;> lia
    have hc1 : b.wi ≤ cap' := by lia
    rw [reslice_eq ⟨h0, hc1⟩, htake]
    exact ⟨_, rfl, R_cap hR cap' hc1 hc'.2, by show n ≤ cap' - s.len; lia⟩
  · rw [if_neg hg, reslice_eq ⟨h0, i4⟩, htake]
    exact ⟨_, rfl, R_cap hR b.cap i4 i5, by show n ≤ b.cap - s.len; lia⟩

theorem writeLoop_spec (hR : R b s) (resps : List (Nat × Bool)) :
    ∀ (w : Nat), w ≤ s.readable.length →
    ∃ (L : Nat) (e : Err), L ≤ s.readable.length ∧
      feed (s.readable.drop w) resps (s.readable.take w) = (s.readable.take L, e) ∧
      b.writeLoop resps w (s.readable.take w) = some ((L : Int), s.readable.take L, e) := by
  obtain ⟨i0, i1, i2, _, i4, i5⟩ := idx_R hR
  have hri : b.ri = b.si + s.readable.length := by rw [hR.2.1, hR.1]
  -- the head of both loops: at offset `w` the unread rest is `drop w`, non-empty iff `w` is short of the end
  have head : ∀ w : Nat, w ≤ s.readable.length →
      Go.add b.si w = b.si + w ∧ (b.si + w < b.ri ↔ w < s.readable.length) ∧ b.sliceOk (b.si + w) b.ri := by
    intro w hw
    exact ⟨Go.add_eq (by omega), by omega, by omega, by omega, Int.le_trans i2 i4⟩
  have done : ∀ (rs : List (Nat × Bool)) (acc : List UInt8), feed (s.readable.drop s.readable.length) rs acc = (acc, .nil) := by
    intro rs acc; rw [List.drop_of_length_le (Nat.le_refl _)]; unfold feed; rfl
  have rest : ∀ w : Nat, w < s.readable.length → ∃ x xs, s.readable.drop w = x :: xs := by
    intro w h
    cases hd : s.readable.drop w with
    | nil => rw [List.drop_eq_nil_iff] at hd; omega
    | cons x xs => exact ⟨x, xs, rfl⟩
  induction resps with
  | nil =>
    intro w hw
    obtain ⟨ha, hlt, hok⟩ := head w hw
    unfold BB.writeLoop
    rw [ha, if_pos hok, bytes_from hR w]
    by_cases h : w < s.readable.length
    · rw [if_pos (hlt.mpr h)]
      dsimp only
      obtain ⟨x, xs, hd⟩ := rest w h
      refine ⟨s.readable.length, .nil, Nat.le_refl _, ?_, ?_⟩
      · rw [hd]; unfold feed; rw [← hd, List.take_append_drop, List.take_of_length_le (Nat.le_refl _)]
      · rw [List.take_append_drop, List.take_of_length_le (Nat.le_refl _), List.length_drop, Go.add_eq (by omega)]
        congr 2; omega
    · have hw' : w = s.readable.length := by omega
      subst hw'
      rw [if_neg (fun h' => h (hlt.mp h')), done]
      exact ⟨_, .nil, hw, rfl, rfl⟩
  | cons r more ih =>
    intro w hw
    obtain ⟨n, fail⟩ := r
    obtain ⟨ha, hlt, hok⟩ := head w hw
    unfold BB.writeLoop
    rw [ha, if_pos hok, bytes_from hR w]
    by_cases h : w < s.readable.length
    · rw [if_pos (hlt.mpr h)]
      dsimp only
      obtain ⟨x, xs, hd⟩ := rest w h
      cases fail with
      | true =>
        refine ⟨w, .other, hw, ?_, by simp⟩
        rw [hd]; unfold feed; rfl
      | false =>
        generalize hk : min n (s.readable.drop w).length = k
        have hk1 : w + k ≤ s.readable.length := by rw [← hk, List.length_drop]; omega
        obtain ⟨L, e, hL, hf, hl⟩ := ih (w + k) hk1
        have e1 : (s.readable.drop w).drop n = s.readable.drop (w + k) := by
          rw [← hk, ← List.drop_drop, drop_min_length]
        have e2 : s.readable.take w ++ (s.readable.drop w).take n = s.readable.take (w + k) := by
          rw [List.take_add, ← hk, take_min_length]
        refine ⟨L, e, hL, ?_, ?_⟩
        · rw [hd]; unfold feed; rw [← hd, e1, e2]; exact hf
        · simp only [Bool.false_eq_true, if_false]
          rw [Go.add_eq (by omega), ← hk, take_min_length, hk, e2, ← Int.natCast_add]
          exact hl
    · have hw' : w = s.readable.length := by omega
      subst hw'
      rw [if_neg (fun h' => h (hlt.mp h')), done]
      exact ⟨_, .nil, hw, rfl, rfl⟩

theorem writeTo_spec (hR : R b s) (resps : List (Nat × Bool)) :
    ∃ b', b.WriteTo resps = some (b', ((feed s.readable resps []).1.length : Int), (feed s.readable resps []).1,
                                   (feed s.readable resps []).2) ∧
      R b' { s with readable := s.readable.drop (feed s.readable resps []).1.length } := by
  obtain ⟨L, e, hL, hf, hl⟩ := writeLoop_spec hR resps 0 (Nat.zero_le _)
  rw [List.drop_zero, List.take_zero] at hf
  rw [List.take_zero] at hl
  unfold BB.WriteTo
  have hl' : b.writeLoop resps 0 [] = some ((L : Int), s.readable.take L, e) := hl
  rw [hl']
  dsimp only
  obtain ⟨b', hb, hR'⟩ := consume_spec hR (L : Int)
  rw [hb, hf]
  dsimp only
  rw [List.length_take, Nat.min_eq_left hL]
  rw [Int.toNat_natCast] at hR'
  exact ⟨b', rfl, hR'⟩

end Sonic.Props.C09
