/-
What the refinement proof (`LoopLedgerSim.lean`) needs of the two sides: the transitions of the ledger `Sonic.Spec.Ledger`
by event and top frame, and how replacing one object of the model moves the model's view of the ledger.
-/
import Sonic.Lemmas.LoopLedgerRel

namespace Sonic.Model.Loop
open Sonic.Spec.Loop (Ev Ret Res OpKind ObjKind maxDispatch)
open Sonic.Spec.Ledger (Rec LFrame L killFrames timerOn)

theorem lstep_push {e : Ev} {k : K} (h : Pushes e k) (l : L) :
    Sonic.Spec.Ledger.step l e = some { l with stack := lfOf k :: l.stack } := by
  cases h <;> rfl

theorem lstep_ret_start_done {l : L} {r : Ret} {rc : Rec} {rest : List LFrame} (hl : l.stack = .start rc true :: rest) :
    Sonic.Spec.Ledger.step l (.ret r) = some { l with stack := rest } := by
  simp only [Sonic.Spec.Ledger.step, hl, if_true]

theorem lstep_ret_start_deferred {l : L} {r : Ret} {rc : Rec} {rest : List LFrame} (hl : l.stack = .start rc false :: rest) :
    Sonic.Spec.Ledger.step l (.ret r) = some { owed := rc :: l.owed, stack := rest } := by
  simp only [Sonic.Spec.Ledger.step, hl, Bool.false_eq_true, if_false]

theorem lstep_ret_sched_armed {l : L} {rc : Rec} {rest : List LFrame} (hl : l.stack = .sched rc false :: rest) :
    Sonic.Spec.Ledger.step l (.ret (.err true)) = some { owed := rc :: l.owed, stack := rest } := by
  simp [Sonic.Spec.Ledger.step, hl]

theorem lstep_ret_sched_pop {l : L} {rc : Rec} {entered isNil : Bool} {rest : List LFrame} (hl : l.stack = .sched rc entered :: rest)
    (h : entered = true ∨ isNil = false) : Sonic.Spec.Ledger.step l (.ret (.err isNil)) = some { l with stack := rest } := by
  rcases h with rfl | rfl <;> simp [Sonic.Spec.Ledger.step, hl]

theorem lstep_ret_post {l : L} {op : Nat} {rest : List LFrame} (hl : l.stack = .post op :: rest) :
    Sonic.Spec.Ledger.step l (.ret (.err true)) = some { owed := ⟨op, 0, .post⟩ :: l.owed, stack := rest } := by
  simp [Sonic.Spec.Ledger.step, hl]

theorem lstep_ret_close {l : L} {obj : Nat} {rest : List LFrame} (hl : l.stack = .close obj :: rest) :
    Sonic.Spec.Ledger.step l (.ret (.err true)) =
      some { owed := l.owed.filter (fun x => !(x.obj == obj && x.kind != .post)), stack := killFrames obj rest } := by
  simp [Sonic.Spec.Ledger.step, hl]

theorem lstep_ret_close_failed {l : L} {obj : Nat} {rest : List LFrame} (hl : l.stack = .close obj :: rest) :
    Sonic.Spec.Ledger.step l (.ret (.err false)) = some { l with stack := rest } := by
  simp [Sonic.Spec.Ledger.step, hl]

theorem lstep_ret_tcancel {l : L} {obj : Nat} {rest : List LFrame} (hl : l.stack = .tcancel obj :: rest) :
    Sonic.Spec.Ledger.step l (.ret (.err true)) =
      some { owed := l.owed.filter (fun x => !(timerOn obj x)), stack := killFrames obj rest } := by
  simp [Sonic.Spec.Ledger.step, hl]

theorem lstep_ret_pending {l : L} {rest : List LFrame} {p q d : Int} (hl : l.stack = .pending :: rest)
    (h : Sonic.Spec.Ledger.quiet rest = true → p = l.owed.length ∧ q = Sonic.Spec.Ledger.postsOwed l) :
    Sonic.Spec.Ledger.step l (.ret (.pending p q d)) = some { l with stack := rest } := by
  cases hq : Sonic.Spec.Ledger.quiet rest with
  | false => simp [Sonic.Spec.Ledger.step, hl, hq]
  | true => simp [Sonic.Spec.Ledger.step, hl, (h hq).1, (h hq).2]

theorem lstep_ret_pending_inv {l l' : L} {rest : List LFrame} {p q d : Int} (hl : l.stack = .pending :: rest)
    (hq : Sonic.Spec.Ledger.quiet rest = true) (h : Sonic.Spec.Ledger.step l (.ret (.pending p q d)) = some l') :
    p = l.owed.length ∧ q = Sonic.Spec.Ledger.postsOwed l := by
  simp only [Sonic.Spec.Ledger.step, hl, hq, Bool.true_and] at h
  by_cases hc : (p != (l.owed.length : Int) || q != (Sonic.Spec.Ledger.postsOwed l : Int)) = true
  · rw [if_pos hc] at h; cases h
  · simpa using hc

theorem lstep_ret_other {l : L} {r : Ret} {rest : List LFrame} (hl : l.stack = .other :: rest) :
    Sonic.Spec.Ledger.step l (.ret r) = some { l with stack := rest } := by
  simp only [Sonic.Spec.Ledger.step, hl]

theorem lstep_enter_start {l : L} {res : Res} {n : Int} {data : List UInt8} {early : Bool} {r : Rec} {op : Nat} {rest : List LFrame}
    (hl : l.stack = .start r false :: rest) (hid : r.id = op) :
    Sonic.Spec.Ledger.step l (.enter op res n data early) = some { l with stack := .handler r false :: .start r true :: rest } := by
  simp [Sonic.Spec.Ledger.step, hl, hid]

theorem lstep_enter_sched {l : L} {res : Res} {n : Int} {data : List UInt8} {early : Bool} {r : Rec} {op : Nat} {rest : List LFrame}
    (hl : l.stack = .sched r false :: rest) (hid : r.id = op) :
    Sonic.Spec.Ledger.step l (.enter op res n data early) = some { l with stack := .handler r false :: .sched r true :: rest } := by
  simp [Sonic.Spec.Ledger.step, hl, hid]

theorem lstep_enter_owed {l : L} {res : Res} {n : Int} {data : List UInt8} {early : Bool} {r : Rec} {op : Nat} {rest : List LFrame}
    (hl : l.stack = .other :: rest) (hf : Sonic.Spec.Ledger.findOwed l op = some r) :
    Sonic.Spec.Ledger.step l (.enter op res n data early) =
      some { owed := l.owed.erase r, stack := .handler r (r.kind == .timerRep) :: .other :: rest } := by
  simp [Sonic.Spec.Ledger.step, hl, hf]

theorem lstep_enter_inv {l l' : L} {op : Nat} {res : Res} {n : Int} {data : List UInt8} {early : Bool}
    (h : Sonic.Spec.Ledger.step l (.enter op res n data early) = some l') :
    (∃ r rest, (l.stack = .start r false :: rest ∨ l.stack = .sched r false :: rest) ∧ r.id = op) ∨ (∃ r, r ∈ l.owed ∧ r.id = op) := by
  unfold Sonic.Spec.Ledger.step at h
  dsimp only at h
  split at h
  · rename_i r rest hst
    by_cases hid : (r.id == op) = true
    · exact Or.inl ⟨r, rest, Or.inl hst, beq_iff_eq.1 hid⟩
    · rw [if_neg hid] at h; cases h
  · rename_i r rest hst
    by_cases hid : (r.id == op) = true
    · exact Or.inl ⟨r, rest, Or.inr hst, beq_iff_eq.1 hid⟩
    · rw [if_neg hid] at h; cases h
  · cases hf : Sonic.Spec.Ledger.findOwed l op with
    | none => rw [hf] at h; cases h
    | some r => exact Or.inr ⟨r, List.mem_of_find?_eq_some hf, by simpa using List.find?_some hf⟩

theorem lstep_exit_rearm {l : L} {r : Rec} {op : Nat} {rest : List LFrame} (hl : l.stack = .handler r true :: rest) (hid : r.id = op)
    (hk : r.kind = .timerRep) (hany : l.owed.any (timerOn r.obj) = false) :
    Sonic.Spec.Ledger.step l (.exit op) = some { owed := r :: l.owed, stack := rest } := by
  simp only [Sonic.Spec.Ledger.step, hl, hid, bne_self_eq_false, hk, hany, beq_self_eq_true, Bool.not_false, Bool.and_self,
    Bool.false_eq_true, if_false, if_true]

theorem lstep_exit_pop {l : L} {r : Rec} {op : Nat} {live : Bool} {rest : List LFrame} (hl : l.stack = .handler r live :: rest)
    (hid : r.id = op) (h : (r.kind == .timerRep && live && !(l.owed.any (timerOn r.obj))) = false) :
    Sonic.Spec.Ledger.step l (.exit op) = some { l with stack := rest } := by
  simp only [Sonic.Spec.Ledger.step, hl, hid, bne_self_eq_false, h, Bool.false_eq_true, if_false]

/-- `X`: the records that leave the model's view of the ledger, `Y`: those that join. -/
theorem absOwed_setObj_perm {w w' : World} {o o' : Obj} {X Y : List Rec} (hn : (ids w.objs).Nodup) (hg : getObj w o.id = some o)
    (ho : w'.objs = (setObj w o').objs) (hid : o'.id = o.id) (hp : w'.posts = w.posts) (hops : w'.ops = w.ops)
    (hc : (X ++ contrib w.ops o').Perm (Y ++ contrib w.ops o)) : (Y ++ absOwed w).Perm (X ++ absOwed w') := by
  obtain ⟨A, B, e1, e2, _⟩ := setObj_absObjs o' hn hg hid
  have pull : ∀ Z C : List Rec, (Z ++ (A ++ C ++ B ++ absPosts w.posts)).Perm ((Z ++ C) ++ (A ++ (B ++ absPosts w.posts))) := by
    intro Z C
    simp only [List.append_assoc]
    exact List.Perm.append_left Z (List.perm_append_comm_assoc ..)
  unfold absOwed
  rw [ho, hp, hops, e1, e2]
  exact (pull Y _).trans ((hc.symm.append_right _).trans (pull X _).symm)

end Sonic.Model.Loop
