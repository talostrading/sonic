/-
C06, one frame and one message: from "the reader returns the first frame ahead" (Lemmas/WsMsgRead.lean) to "the frame
API returns each frame a conforming peer sends" and "the message API assembles one message out of its fragments and hands
the control frames between them to the callback".  Whole sessions follow in Lemmas/WsMsgSession.lean.
-/
import Sonic.Lemmas.WsMsgRead
import Sonic.Lemmas.WsRefine
import Sonic.Lemmas.WsEncodeSpec
import Sonic.Spec.WsMessages

namespace Sonic.Lemmas.WsMsg
open Sonic.Model.WsBuf Sonic.Model.WsFrame Sonic.Spec.WsFrame Sonic.Model.WsMsg Sonic.Spec.WsMessages
open Sonic.Model.WsStream (Next Asm handleFrame flush canRead isControl)
open Sonic.Spec.WsStream (Err InFrame isViolation)
open Sonic.Lemmas.WsRefine (conform hf_ok fragErr isControl_of notControl_of conform_other conform_ping)

/-- A frame a conforming peer sends to a receiver whose maximum is `max`: no reserved bits, not masked, a data frame
or a whole Ping/Pong of at most 125 bytes. -/
def FrOk (max : Nat) (f : Frame) : Prop :=
  f.rsv1 = false ∧ f.rsv2 = false ∧ f.rsv3 = false ∧ f.masked = false ∧ f.mask = [] ∧ f.payload.length ≤ max ∧
  ((f.opcode = 0 ∨ f.opcode = 1 ∨ f.opcode = 2) ∨ ((f.opcode = 9 ∨ f.opcode = 10) ∧ f.fin = true ∧ f.payload.length ≤ 125))

structure SInv (w : W) : Prop where
  ci : w.c.Inv
  mx : w.c.max = (w.m.max : Int)
  st : w.m.state = .active

theorem toIn_ok {max : Nat} {f : Frame} (h : FrOk max f) : toIn f = inFrameOf f := by
  obtain ⟨h1, h2, h3, h4, _⟩ := h
  unfold toIn inFrameOf
  rw [h1, h2, h3, h4]; rfl

theorem conforming {max : Nat} {f : Frame} (h : FrOk max f) : isViolation (inFrameOf f) = false := by
  obtain ⟨_, _, _, _, _, _, h7⟩ := h
  unfold isViolation inFrameOf Sonic.Spec.WsStream.reservedOp Sonic.Spec.WsStream.controlOp
  rcases h7 with h | ⟨h, hf, hl⟩
  · rcases h with h | h | h <;> rw [h] <;> simp
  · rcases h with h | h <;> rw [h, hf] <;> simp <;> omega

theorem frOk_opcode {max : Nat} {f : Frame} (h : FrOk max f) : f.opcode ≠ 8 := by
  rcases h.2.2.2.2.2.2 with h | ⟨h, _⟩ <;> omega

theorem conform_of_frOk {max : Nat} {f : Frame} (h : FrOk max f) (m : Sonic.Model.WsStream.M) :
    (conform m (inFrameOf f)).state = m.state ∧ (conform m (inFrameOf f)).max = m.max := by
  refine ⟨?_, (Sonic.Lemmas.WsRefine.conform_keeps m _).1⟩
  by_cases h9 : f.opcode = 9
  · rw [conform_ping m (f := inFrameOf f) h9]
    split <;> rfl
  · rw [conform_other m (f := inFrameOf f) h9 (frOk_opcode h)]

theorem wf_of_ok {max : Nat} {f : Frame} (h : FrOk max f) (hm : (2 * (max : Int)) + 14 ≤ Go.I64MAX) : f.WF := by
  obtain ⟨_, _, _, h4, h5, h6, h7⟩ := h
  refine ⟨?_, ?_, ?_⟩
  · rcases h7 with h | ⟨h, _⟩ <;> omega
  · rw [h4]; simpa using h5
  · unfold Go.I64MAX at hm; omega

theorem parse_nil (max : Int) : parse max [] = .needMore := by unfold parse; simp

theorem nextFrame_head (async : Bool) (w : W) (f : Frame) (t : List UInt8) (hS : SInv w) (hf : FrOk w.m.max f)
    (hrem : rem w = encode f ++ t) :
    nextFrame async w = .error (.buf .env) ∨
    ∃ w', nextFrame async w = .ok (w', .nil, some (inFrameOf f)) ∧ SInv w' ∧ w'.m.max = w.m.max ∧ rem w' = t := by
  obtain ⟨hci, hmx, hst⟩ := hS
  have hm2 : (2 * (w.m.max : Int)) + 14 ≤ Go.I64MAX := by rw [← hmx]; exact hci.2.2.1
  have hcr : canRead (flush w.m) = true := by unfold canRead flush; rw [hst]; rfl
  have hp : parse w.c.max (rem ({ w with m := flush w.m } : W)) = .frame f (encode f).length := by
    show parse w.c.max (rem w) = _
    rw [hrem]
    exact parse_encode _ f t (wf_of_ok hf hm2) (by rw [hmx]; exact_mod_cast hf.2.2.2.2.2.1)
  unfold nextFrame
  simp only [hcr, Bool.not_true, Bool.false_eq_true, if_false]
  unfold nextFrameInner readNext
  rcases readNextFuel_frame _ ({ w with m := flush w.m } : W) f _ hci hp (Nat.le_refl _) with he | ⟨w1, h1, i1, m1, mm1, r1⟩
  · left; rw [he]; rfl
  · right
    have hst1 : w1.m.state = .active := by rw [mm1]; exact hst
    have hh := hf_ok w1.m (inFrameOf f) (conforming hf) (Or.inl hst1)
    obtain ⟨ks, km⟩ := conform_of_frOk hf w1.m
    have hne1 : (Err.nil == Err.eof) = false := by decide
    simp only [h1, ebind_ok, toIn_ok hf, hh, epure, hne1, Bool.and_false, Bool.false_eq_true, if_false]
    refine ⟨_, rfl, ⟨i1, ?_, ?_⟩, ?_, ?_⟩
    · show w1.c.max = ((conform w1.m (inFrameOf f)).max : Int)
      rw [km, m1, mm1]; exact hmx
    · show (conform w1.m (inFrameOf f)).state = .active
      rw [ks]; exact hst1
    · show (conform w1.m (inFrameOf f)).max = w.m.max
      rw [km, mm1]; rfl
    · exact r1.trans ((congrArg (List.drop _) hrem).trans (List.drop_left' rfl))

theorem nextFrame_end (async : Bool) (w : W) (hS : SInv w) (hrem : rem w = []) :
    nextFrame async w = .error (.buf .env) ∨
    ∃ w', nextFrame async w = .ok (w', .nodata, none) ∧ SInv w' ∧ w'.m.max = w.m.max ∧ rem w' = [] := by
  obtain ⟨hci, hmx, hst⟩ := hS
  have hcr : canRead (flush w.m) = true := by unfold canRead flush; rw [hst]; rfl
  have hp : parse w.c.max (rem ({ w with m := flush w.m } : W)) = .needMore := by
    show parse w.c.max (rem w) = _
    rw [hrem]; exact parse_nil _
  unfold nextFrame
  simp only [hcr, Bool.not_true, Bool.false_eq_true, if_false]
  unfold nextFrameInner readNext
  rcases readNextFuel_drained _ ({ w with m := flush w.m } : W) hci hp (Nat.le_refl _) with he | ⟨w1, h1, i1, m1, mm1, r1, _⟩
  · left; rw [he]; rfl
  · right
    have hne : ¬ (Err.nodata = Err.eof) := by intro h; cases h
    have hne1 : (Err.nodata == Err.eof) = false := by decide
    refine ⟨w1, ?_, ⟨i1, ?_, ?_⟩, ?_, ?_⟩
    · simp only [h1, ebind_ok, epure, hne, if_false, hne1, Bool.and_false, Bool.false_eq_true]
    · rw [m1, mm1]; exact hmx
    · rw [mm1]; exact hst
    · rw [mm1]; rfl
    · rw [r1]; exact hrem

theorem ctlFrame_ok {max : Nat} {c : Ctl} (h : CtlOk max c) : FrOk max (ctlFrame c) := by
  obtain ⟨hop, h125, hmax⟩ := h
  exact ⟨rfl, rfl, rfl, rfl, rfl, hmax, Or.inr ⟨hop, rfl, h125⟩⟩

theorem asm_ctl_nil (a : Asm) : ({ a with ctl := a.ctl ++ ctlSeen [] } : Asm) = a := by
  cases a; simp [ctlSeen]

-- One turn of the loop of `Model.WsMsg.nextMessageFuel` (the model over the byte-level reader), by what its `nextFrame`
-- returned, and its body `onFrame`.  The stream model's loop, `Model.WsStream.nextMessage`, is treated in Lemmas/WsRefine.lean.
theorem nm_fail {async : Bool} {buf fuel : Nat} {w : W} {a : Asm} {x : Fail} (h : nextFrame async w = .error x) :
    nextMessageFuel async buf (fuel + 1) w a = .error x := by
  show (nextFrame async w >>= _) = _
  rw [h]; rfl

theorem nm_step {async : Bool} {buf fuel : Nat} {w w1 : W} {a : Asm} {f : InFrame}
    (h : nextFrame async w = .ok (w1, .nil, some f)) :
    nextMessageFuel async buf (fuel + 1) w a = onFrame (nextMessageFuel async buf fuel) buf w1 a f := by
  show (nextFrame async w >>= _) = _
  rw [h]
  simp only [ebind_ok, ne_eq, not_true_eq_false, if_false]

theorem nm_stop {async : Bool} {buf fuel : Nat} {w w1 : W} {a : Asm} {e : Err} {fo : Option InFrame}
    (h : nextFrame async w = .ok (w1, e, fo)) (he : e ≠ .nil) :
    nextMessageFuel async buf (fuel + 1) w a = .ok (w1, e, a) := by
  show (nextFrame async w >>= _) = _
  rw [h]
  simp only [ebind_ok, ne_eq, he, not_false_eq_true, if_true, epure]

theorem onFrame_ctl {k : W → Asm → X (W × Err × Asm)} {buf : Nat} {w : W} {a : Asm} {f : InFrame}
    (h : isControl f.op = true) : onFrame k buf w a f = k w { a with ctl := a.ctl ++ [(f.op, f.payload)] } := by
  unfold onFrame; rw [if_pos h]

theorem onFrame_data (k : W → Asm → X (W × Err × Asm)) (buf : Nat) (w : W) (a : Asm) (f : InFrame)
    (hc : isControl f.op = false) (hfit : a.n + f.payload.length ≤ buf) (hmax : a.n + f.payload.length ≤ w.m.max)
    (he : fragErr a.cont f.op = .nil) :
    onFrame k buf w a f =
      if f.fin = true then
        .ok (w, .nil, { a with ty := if a.ty = 255 then f.op else a.ty, n := a.n + f.payload.length,
                               data := a.data ++ f.payload, cont := false })
      else k w { a with ty := if a.ty = 255 then f.op else a.ty, n := a.n + f.payload.length,
                        data := a.data ++ f.payload, cont := true } := by
  have hk : min (buf - a.n) f.payload.length = f.payload.length := Nat.min_eq_right (Nat.le_sub_of_add_le' hfit)
  unfold fragErr at he
  unfold onFrame
  rw [if_neg (by rw [hc]; exact Bool.false_ne_true)]
  simp only [hk, List.take_length]
  rw [if_neg (fun h => h.elim (Nat.not_lt.2 hmax) (fun h => h rfl)), he]
  cases f.fin <;> simp

theorem nm_ctls (async : Bool) (buf : Nat) : ∀ (cs : List Ctl) (fuel : Nat) (w : W) (a : Asm) (t : List UInt8), SInv w →
    (∀ c ∈ cs, CtlOk w.m.max c) → rem w = (cs.map ctlFrame).flatMap encode ++ t →
    nextMessageFuel async buf (fuel + cs.length) w a = .error (.buf .env) ∨
    ∃ w', SInv w' ∧ w'.m.max = w.m.max ∧ rem w' = t ∧
      nextMessageFuel async buf (fuel + cs.length) w a =
        nextMessageFuel async buf fuel w' { a with ctl := a.ctl ++ ctlSeen cs } := by
  intro cs
  induction cs with
  | nil =>
    intro fuel w a t hS _ hrem
    right
    exact ⟨w, hS, rfl, by simpa using hrem, by rw [asm_ctl_nil]; rfl⟩
  | cons c cs ih =>
    intro fuel w a t hS hcs hrem
    have hc := hcs c (List.mem_cons_self ..)
    have hrem' : rem w = encode (ctlFrame c) ++ ((cs.map ctlFrame).flatMap encode ++ t) := by
      rw [hrem]; simp only [List.map_cons, List.flatMap_cons, List.append_assoc]
    rw [show fuel + (c :: cs).length = fuel + cs.length + 1 from rfl]
    rcases nextFrame_head async w (ctlFrame c) _ hS (ctlFrame_ok hc) hrem' with he | ⟨w1, h1, S1, mx1, r1⟩
    · left; exact nm_fail he
    · rw [nm_step h1, onFrame_ctl (f := inFrameOf (ctlFrame c)) (isControl_of c.op (.inr hc.1)).1]
      rcases ih fuel w1 { a with ctl := a.ctl ++ [((inFrameOf (ctlFrame c)).op, (inFrameOf (ctlFrame c)).payload)] } t S1
        (fun x hx => by rw [mx1]; exact hcs x (List.mem_cons_of_mem _ hx)) r1 with he | ⟨w', S', mx', r', e'⟩
      · left; exact he
      · right
        refine ⟨w', S', by rw [mx', mx1], r', ?_⟩
        rw [e']
        congr 1
        simp [ctlSeen, inFrameOf, ctlFrame]

/-- `Sent.payload` and `Sent.ctls` for a list of fragments that need not be a whole message: the induction over the
fragments of a message speaks of the tails of `m.parts`. -/
def partsPayload (parts : List (List Ctl × Bytes)) : Bytes := parts.flatMap (·.2)
def partsCtls (parts : List (List Ctl × Bytes)) : List Ctl := parts.flatMap (·.1)

theorem partsPayload_cons (cs : List Ctl) (b : Bytes) (rest : List (List Ctl × Bytes)) :
    partsPayload ((cs, b) :: rest) = b ++ partsPayload rest := rfl

theorem partsCtls_cons (cs : List Ctl) (b : Bytes) (rest : List (List Ctl × Bytes)) :
    partsCtls ((cs, b) :: rest) = cs ++ partsCtls rest := rfl

theorem ctlSeen_append (cs ds : List Ctl) : ctlSeen (cs ++ ds) = ctlSeen cs ++ ctlSeen ds := List.map_append

theorem partFrames_length_cons (ty : Nat) (first : Bool) (p : List Ctl × Bytes) (rest : List (List Ctl × Bytes)) :
    (partFrames ty first (p :: rest)).length = p.1.length + 1 + (partFrames ty false rest).length := by
  obtain ⟨cs, b⟩ := p
  simp only [partFrames, List.length_append, List.length_map, List.length_cons]; omega

theorem fuel_split {c l fuel : Nat} (h : c + 1 + l ≤ fuel) : ∃ fuel', fuel = fuel' + 1 + c ∧ l ≤ fuel' :=
  ⟨fuel - 1 - c, by omega, by omega⟩

theorem partOp_data {ty : Nat} (hty : ty = 1 ∨ ty = 2) (first : Bool) :
    (if first then ty else 0) = 0 ∨ (if first then ty else 0) = 1 ∨ (if first then ty else 0) = 2 := by
  cases first
  · exact .inl rfl
  · exact .inr hty

theorem partOp_ok {ty : Nat} (hty : ty = 1 ∨ ty = 2) (first : Bool) {a : Asm} (hcont : a.cont = !first)
    (hty' : a.ty = if first then 255 else ty) :
    fragErr a.cont (if first then ty else 0) = .nil ∧ (if a.ty = 255 then (if first then ty else 0) else a.ty) = ty := by
  have h255 : ty ≠ 255 := by omega
  have h0 : ty ≠ 0 := by omega
  rw [hcont, hty']
  cases first
  · exact ⟨rfl, if_neg h255⟩
  · exact ⟨show (if ty = 0 then Err.unexpCont else Err.nil) = Err.nil from if_neg h0, rfl⟩

theorem nm_fragment (async : Bool) (buf ty : Nat) (hty : ty = 1 ∨ ty = 2) (cs : List Ctl) (b : Bytes) (fin first : Bool)
    (fuel : Nat) (w : W) (a : Asm) (t : List UInt8) (hS : SInv w) (hctl : ∀ c ∈ cs, CtlOk w.m.max c)
    (hcont : a.cont = !first) (hty' : a.ty = if first then 255 else ty)
    (hmax : a.n + b.length ≤ w.m.max) (hbuf : a.n + b.length ≤ buf)
    (hrem : rem w = (cs.map ctlFrame).flatMap encode ++ (encode (dataFrame (if first then ty else 0) fin b) ++ t)) :
    nextMessageFuel async buf (fuel + 1 + cs.length) w a = .error (.buf .env) ∨
    ∃ w', SInv w' ∧ w'.m.max = w.m.max ∧ rem w' = t ∧
      nextMessageFuel async buf (fuel + 1 + cs.length) w a =
        if fin = true then .ok (w', .nil, ⟨ty, a.n + b.length, a.data ++ b, false, a.ctl ++ ctlSeen cs⟩)
        else nextMessageFuel async buf fuel w' ⟨ty, a.n + b.length, a.data ++ b, true, a.ctl ++ ctlSeen cs⟩ := by
  have hop := partOp_data hty first
  obtain ⟨herr, htyv⟩ := partOp_ok hty first hcont hty'
  rcases nm_ctls async buf cs (fuel + 1) w a _ hS hctl hrem with he | ⟨w1, S1, mx1, r1, e1⟩
  · exact .inl he
  have hfr : FrOk w1.m.max (dataFrame (if first then ty else 0) fin b) :=
    ⟨rfl, rfl, rfl, rfl, rfl, mx1 ▸ Nat.le_trans (Nat.le_add_left ..) hmax, .inl hop⟩
  rcases nextFrame_head async w1 _ _ S1 hfr r1 with he | ⟨w2, h2, S2, mx2, r2⟩
  · exact .inl (e1.trans (nm_fail he))
  refine .inr ⟨w2, S2, mx2.trans mx1, r2, ?_⟩
  have hmax2 : a.n + b.length ≤ w2.m.max := by rw [mx2, mx1]; exact hmax
  rw [e1, nm_step h2, onFrame_data _ buf w2 { a with ctl := a.ctl ++ ctlSeen cs }
    (inFrameOf (dataFrame (if first then ty else 0) fin b)) (notControl_of _ hop).1 hbuf hmax2 herr]
  dsimp only [inFrameOf, dataFrame]
  rw [htyv]
  rfl

/-- **The fragments of one message**, with control frames interleaved: the loop copies every fragment behind the
previous ones, keeps the type of the first, hands the control frames to the callback and stops at the FIN fragment. -/
theorem nm_parts (async : Bool) (buf ty : Nat) (hty : ty = 1 ∨ ty = 2) :
    ∀ (parts : List (List Ctl × Bytes)) (first : Bool) (fuel : Nat) (w : W) (a : Asm) (t : List UInt8),
    parts ≠ [] → SInv w → (∀ p ∈ parts, ∀ c ∈ p.1, CtlOk w.m.max c) →
    a.cont = !first → a.ty = (if first then 255 else ty) →
    a.n + (partsPayload parts).length ≤ w.m.max → a.n + (partsPayload parts).length ≤ buf →
    rem w = (partFrames ty first parts).flatMap encode ++ t → (partFrames ty first parts).length ≤ fuel →
    nextMessageFuel async buf fuel w a = .error (.buf .env) ∨
    ∃ w', nextMessageFuel async buf fuel w a =
        .ok (w', .nil, { ty := ty, n := a.n + (partsPayload parts).length, data := a.data ++ partsPayload parts,
                         cont := false, ctl := a.ctl ++ ctlSeen (partsCtls parts) }) ∧
      SInv w' ∧ w'.m.max = w.m.max ∧ rem w' = t := by
  intro parts
  induction parts with
  | nil => intro _ _ _ _ _ h; exact absurd rfl h
  | cons p rest ih =>
    intro first fuel w a t _ hS hctl hcont hty' hmax hbuf hrem hfuel
    obtain ⟨cs, b⟩ := p
    rw [partsPayload_cons, List.length_append, ← Nat.add_assoc] at hmax hbuf
    rw [partFrames_length_cons] at hfuel
    obtain ⟨fuel', rfl, hfuel'⟩ := fuel_split hfuel
    have hrem1 : rem w = (cs.map ctlFrame).flatMap encode ++
        (encode (dataFrame (if first then ty else 0) rest.isEmpty b) ++ ((partFrames ty false rest).flatMap encode ++ t)) := by
      rw [hrem]
      simp only [partFrames, List.flatMap_append, List.flatMap_cons, List.append_assoc]
    rcases nm_fragment async buf ty hty cs b rest.isEmpty first fuel' w a _ hS (hctl (cs, b) (List.mem_cons_self ..))
      hcont hty' (Nat.le_trans (Nat.le_add_right ..) hmax) (Nat.le_trans (Nat.le_add_right ..) hbuf) hrem1 with he | ⟨w1, S1, mx1, r1, e1⟩
    · exact .inl he
    rw [e1, partsPayload_cons, partsCtls_cons, ctlSeen_append, List.length_append, ← Nat.add_assoc, ← List.append_assoc,
      ← List.append_assoc]
    cases rest with
    | nil =>
      rw [List.isEmpty_nil, if_pos rfl]
      exact .inr ⟨w1, by simp only [partsPayload, partsCtls, ctlSeen, List.flatMap_nil, List.map_nil, List.append_nil,
        List.length_nil, Nat.add_zero], S1, mx1, r1⟩
    | cons q rest' =>
      rw [List.isEmpty_cons, if_neg Bool.false_ne_true]
      rcases ih false fuel' w1 ⟨ty, a.n + b.length, a.data ++ b, true, a.ctl ++ ctlSeen cs⟩ t (List.cons_ne_nil _ _) S1
          (fun p hp c hc => by rw [mx1]; exact hctl p (List.mem_cons_of_mem _ hp) c hc) rfl rfl
          (by rw [mx1]; exact hmax) hbuf r1 hfuel' with he | ⟨w2, h2, S2, mx2, r2⟩
      · exact .inl he
      · exact .inr ⟨w2, h2, S2, mx2.trans mx1, r2⟩

end Sonic.Lemmas.WsMsg
