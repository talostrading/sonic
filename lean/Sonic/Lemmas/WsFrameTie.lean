/-
Tie T for the websocket frame header (C07, C15, C16).

`Sonic.Gen.WsFrameBits` is regenerated on every run from `codec/websocket/frame.go`, `codec/websocket/rfc6455.go` and
`util/bytes.go` (`Frame.ExtendedPayloadLengthBytes … Frame.setPayloadLength`, `Opcode.IsReserved/IsControl`,
`ValidCloseCode`, `ExtendSlice`; bytes are `UInt8`, a slice is `Go.Bytes` = backing array up to the capacity + length,
index and slice expressions are checked as Go checks them).  This file proves that those functions coincide with the
definitions of the hand-written models over which C07 / C15 / C16 are proved:

* decoder side (`Sonic.Model.WsFrame`, a frame is the list of its `len(f)` bytes): for every slice value the accessors
  that only index (`ExtendedPayloadLengthBytes`, `IsFIN`, `IsRSV1..3`, `Opcode`, `IsMasked`, `MaskBytes`, `maskOffset`,
  `payloadOffset`) agree exactly, including the panic on a too short slice; `PayloadLength` agrees exactly on every
  slice without spare capacity, and whenever the model yields a value the generated code yields the same one (the model
  refuses to read between `len` and `cap`, Go does not);
* writer side (`Sonic.Model.WsEncode.PFrame` = array + length, the same representation): the bit setters,
  `ExtendSlice` and `setPayloadLength` agree exactly;
* `Opcode.IsReserved / IsControl` = `Model.WsStream.isReserved / isControl`, `ValidCloseCode` = `Spec.WsStream.validCloseCode`.
-/
import Sonic.Gen.WsFrameBits
import Sonic.Model.WsEncode
import Sonic.Model.WsStream
import Sonic.Lemmas.WsDecode

namespace Sonic.Lemmas.WsFrameTie
open Sonic.Gen.WsFrameBits
open Sonic.Model.WsBuf (M)
open Sonic.Model

/-- The model's name for a Go panic. -/
def liftP : Go.Panic → WsBuf.Panic
  | .indexRange => .indexRange
  | .sliceBounds => .sliceBounds
  | .makeLen => .allocRange

/-- A result of generated code, read as a result of the model's monad. -/
def lift {α : Type} : Except Go.Panic α → M α
  | .ok a => .ok a
  | .error e => .error (liftP e)

@[simp] theorem lift_ok {α : Type} (a : α) : lift (.ok a : Except Go.Panic α) = .ok a := rfl
@[simp] theorem lift_error {α : Type} (e : Go.Panic) : lift (.error e : Except Go.Panic α) = .error (liftP e) := rfl

theorem toList_length (b : Go.Bytes) : b.toList.length = min b.len b.arr.length := by
  simp [Go.Bytes.toList, List.length_take]

theorem toList_getD (b : Go.Bytes) (i : Nat) (h : i < b.len) : b.toList.getD i 0 = b.arr.getD i 0 := by
  simp [Go.Bytes.toList, List.getD_eq_getElem?_getD, h]

@[simp] theorem toList_ofList (l : List UInt8) : (Go.Bytes.ofList l).toList = l := by
  simp [Go.Bytes.toList, Go.Bytes.ofList]

theorem idx_cases (b : Go.Bytes) (i : Nat) :
    (∃ x, Go.Bytes.idx b (i : Int) = .ok x ∧ WsFrame.idx b.toList i = .ok x ∧ i < b.len ∧ i < b.arr.length ∧ x = b.arr.getD i 0) ∨
    (Go.Bytes.idx b (i : Int) = .error .indexRange ∧ WsFrame.idx b.toList i = .error .indexRange ∧ ¬ (i < b.len ∧ i < b.arr.length)) := by
  unfold Go.Bytes.idx WsFrame.idx
  rw [toList_length]
  by_cases h : i < b.len ∧ i < b.arr.length
  · left
    refine ⟨b.arr.getD i 0, ?_, ?_, h.1, h.2, rfl⟩
    · rw [if_pos ⟨by omega, by simpa using h.1, by simpa using h.2⟩, Int.toNat_natCast]; rfl
    · rw [if_pos (by omega), toList_getD b i h.1]; rfl
  · right
    refine ⟨?_, ?_, h⟩
    · rw [if_neg (by intro hh; apply h; exact ⟨by simpa using hh.2.1, by simpa using hh.2.2⟩)]; rfl
    · rw [if_neg (by omega)]; rfl

/-- With the `Int` literal `1` of the generated code: `idx_cases b 1` has the cast `((1 : Nat) : Int)`, which `rw` does not
take for it. -/
theorem idx_cases1 (b : Go.Bytes) :
    (∃ x, Go.Bytes.idx b (1 : Int) = .ok x ∧ WsFrame.idx b.toList 1 = .ok x ∧ 1 < b.len ∧ 1 < b.arr.length ∧ x = b.arr.getD 1 0) ∨
    (Go.Bytes.idx b (1 : Int) = .error .indexRange ∧ WsFrame.idx b.toList 1 = .error .indexRange ∧ ¬ (1 < b.len ∧ 1 < b.arr.length)) :=
  idx_cases b 1

theorem dec_ne_zero (y : UInt8) : (decide ¬ y = 0) = !(y == 0) := by
  by_cases h : y = 0 <;> simp [h]

/-- How results of the model that are natural numbers are compared with Go `int` results. -/
def natM (r : M Nat) : M Int := (fun n : Nat => (n : Int)) <$> r

theorem byte_fn_eq {α : Type} (b : Go.Bytes) (i : Nat) {k k' : UInt8 → α} (h : ∀ x, k x = k' x) :
    lift (Go.Bytes.idx b (i : Int) >>= fun t => pure (k t)) = (WsFrame.idx b.toList i >>= fun x => pure (k' x)) := by
  rcases idx_cases b i with ⟨x, h1, h2, -⟩ | ⟨h1, h2, -⟩
  · rw [h1, h2, WsFrame.ebind_ok, WsFrame.ebind_ok, h]; rfl
  · rw [h1, h2]; rfl

theorem isFIN_eq (b : Go.Bytes) : lift (Frame.IsFIN b) = WsFrame.IsFIN b.toList :=
  byte_fn_eq b 0 fun _ => dec_ne_zero _

theorem isRSV1_eq (b : Go.Bytes) : lift (Frame.IsRSV1 b) = WsFrame.IsRSV1 b.toList :=
  byte_fn_eq b 0 fun _ => dec_ne_zero _

theorem isRSV2_eq (b : Go.Bytes) : lift (Frame.IsRSV2 b) = WsFrame.IsRSV2 b.toList :=
  byte_fn_eq b 0 fun _ => dec_ne_zero _

theorem isRSV3_eq (b : Go.Bytes) : lift (Frame.IsRSV3 b) = WsFrame.IsRSV3 b.toList :=
  byte_fn_eq b 0 fun _ => dec_ne_zero _

theorem opcode_eq (b : Go.Bytes) : lift (Frame.Opcode b) = WsFrame.Opcode b.toList :=
  byte_fn_eq b 0 fun _ => rfl

theorem isMasked_eq (b : Go.Bytes) : lift (Frame.IsMasked b) = WsFrame.IsMasked b.toList :=
  byte_fn_eq b 1 fun _ => dec_ne_zero _

theorem extLenBytes_eq (b : Go.Bytes) :
    lift (Frame.ExtendedPayloadLengthBytes b) = natM (WsFrame.ExtendedPayloadLengthBytes b.toList) := by
  unfold Frame.ExtendedPayloadLengthBytes WsFrame.ExtendedPayloadLengthBytes natM
  rcases idx_cases1 b with ⟨x, h1, h2, -⟩ | ⟨h1, h2, -⟩
  · rw [h1, h2, show bitmaskPayloadLength = (127 : UInt8) from rfl]
    simp only [WsFrame.ebind_ok, WsFrame.epure, beq_iff_eq]
    by_cases h127 : (x &&& 127) = 127
    · rw [if_pos h127, if_pos h127]; rfl
    · rw [if_neg h127, if_neg h127]
      by_cases h126 : (x &&& 127) = 126
      · rw [if_pos h126, if_pos h126]; rfl
      · rw [if_neg h126, if_neg h126]; rfl
  · rw [h1, h2]; rfl

theorem lift_bind' {α β α' β' : Type} {r : Except Go.Panic α} {r' : M α'} {k : α → Except Go.Panic β} {k' : α' → M β'}
    (g : α' → α) (h : β' → β) (hr : lift r = g <$> r') (hk : ∀ a', r' = .ok a' → lift (k (g a')) = h <$> k' a') :
    lift (r >>= k) = h <$> (r' >>= k') := by
  cases r' with
  | error e =>
    cases r with
    | error e0 => cases hr; rfl
    | ok a => cases hr
  | ok a' =>
    cases r with
    | error e0 => cases hr
    | ok a => cases hr; exact hk a' rfl

theorem lift_bind {α β α' β' : Type} {r : Except Go.Panic α} {r' : M α'} {k : α → Except Go.Panic β} {k' : α' → M β'}
    (g : α' → α) (h : β' → β) (hr : lift r = g <$> r') (hk : ∀ a', lift (k (g a')) = h <$> k' a') :
    lift (r >>= k) = h <$> (r' >>= k') :=
  lift_bind' g h hr fun a' _ => hk a'

theorem maskBytes_eq (b : Go.Bytes) : lift (Frame.MaskBytes b) = natM (WsFrame.MaskBytes b.toList) := by
  unfold Frame.MaskBytes WsFrame.MaskBytes natM
  refine lift_bind id _ (by simpa using isMasked_eq b) (fun m => ?_)
  cases m <;> rfl

/-! The offsets are sums of the two header lengths: small numbers, which Go's wrapping `+` adds exactly. -/

theorem ext_le {l : List UInt8} {e : Nat} (h : WsFrame.ExtendedPayloadLengthBytes l = .ok e) : e ≤ 8 := by
  unfold WsFrame.ExtendedPayloadLengthBytes at h
  cases hi : WsFrame.idx l 1 <;> rw [hi] at h
  · cases h
  · simp only [WsFrame.ebind_ok, WsFrame.epure] at h
    split at h
    · cases h; omega
    · split at h <;> cases h <;> omega

theorem maskBytes_le {l : List UInt8} {m : Nat} (h : WsFrame.MaskBytes l = .ok m) : m ≤ 4 := by
  unfold WsFrame.MaskBytes at h
  cases hi : WsFrame.IsMasked l <;> rw [hi] at h
  · cases h
  · simp only [WsFrame.ebind_ok, WsFrame.epure] at h
    split at h <;> cases h <;> decide

theorem maskOffset_eq (b : Go.Bytes) : lift (Frame.maskOffset b) = natM (WsFrame.maskOffset b.toList) :=
  lift_bind' Nat.cast Nat.cast (extLenBytes_eq b) fun e he => by
    have := ext_le he
    show lift (.ok (Go.add 2 e)) = .ok ((2 + e : Nat) : Int)
    rw [Go.add_id (by unfold Go.InI64 Go.I64MIN Go.I64MAX; omega)]; rfl

theorem payloadOffset_eq (b : Go.Bytes) : lift (Frame.payloadOffset b) = natM (WsFrame.payloadOffset b.toList) :=
  lift_bind' Nat.cast Nat.cast (extLenBytes_eq b) fun e he =>
    lift_bind' Nat.cast Nat.cast (maskBytes_eq b) fun m hm => by
      have := ext_le he
      have := maskBytes_le hm
      show lift (.ok (Go.add (Go.add 2 e) m)) = .ok ((2 + e + m : Nat) : Int)
      rw [Go.add_id (a := 2) (by unfold Go.InI64 Go.I64MIN Go.I64MAX; omega),
        Go.add_id (by unfold Go.InI64 Go.I64MIN Go.I64MAX; omega)]
      rfl

theorem u64_conv (n : Nat) : Go.u64ToInt (UInt64.ofNat n) = WsFrame.u64ToInt n := by
  unfold Go.u64ToInt WsFrame.u64ToInt; rw [UInt64.toBitVec_ofNat']

theorem beNat_eq (l : List UInt8) : Go.beNat l = WsFrame.beUint l := rfl

theorem u16_conv (l : List UInt8) (h : l.length ≤ 2) : Int.ofNat (UInt16.ofNat (Go.beNat l)).toNat = (WsFrame.beUint l : Int) := by
  have h1 : Go.beNat l < 256 ^ 2 := WsFrame.beNat_lt_of_length_le h
  rw [← beNat_eq, UInt16.toNat_ofNat', Nat.mod_eq_of_lt h1]
  rfl

theorem window (b : Go.Bytes) (lo k : Nat) (h : lo + k ≤ b.len) :
    ((b.toList.drop lo).take k) = (b.arr.drop lo).take k := by
  unfold Go.Bytes.toList
  rw [List.drop_take, List.take_take]
  congr 1; omega

theorem payloadLength_gen (b : Go.Bytes) (x : UInt8) (h1 : Go.Bytes.idx b (1 : Int) = .ok x) :
    Frame.PayloadLength b =
      if (x &&& 127) = 127 then
        (if 10 ≤ b.arr.length then .ok (WsFrame.u64ToInt (WsFrame.beUint ((b.arr.drop 2).take 8))) else .error .sliceBounds)
      else if (x &&& 127) = 126 then
        (if 4 ≤ b.arr.length then .ok (WsFrame.beUint ((b.arr.drop 2).take 2) : Int) else .error .sliceBounds)
      else .ok ((x &&& 127).toNat : Int) := by
  unfold Frame.PayloadLength
  rw [h1, show bitmaskPayloadLength = (127 : UInt8) from rfl, show frameHeaderLength = (2 : Int) from rfl, WsFrame.ebind_ok]
  have hs : ∀ k : Nat, Go.Bytes.slice b (some 2) (some ((2 + k : Nat) : Int)) =
      if 2 + k ≤ b.arr.length then .ok ⟨b.arr.drop 2, k⟩ else .error .sliceBounds := by
    intro k
    unfold Go.Bytes.slice
    simp only [Option.getD_some]
    by_cases hc : 2 + k ≤ b.arr.length
    · rw [if_pos hc, if_pos ⟨by decide, by omega, by omega⟩, show ((2 + k : Nat) - 2 : Int).toNat = k by omega]; rfl
    · rw [if_neg hc, if_neg (by omega)]; rfl
  refine ite_congr rfl (fun _ => ?_) fun _ => ite_congr rfl (fun _ => ?_) fun _ => rfl
  · rw [show (10 : Int) = ((2 + 8 : Nat) : Int) from rfl, hs 8]
    by_cases hc : 10 ≤ b.arr.length
    · rw [if_pos hc, if_pos hc, WsFrame.ebind_ok]
      unfold Go.Bytes.uint64BE
      rw [if_pos ⟨Nat.le_refl 8, by simp only [List.length_drop]; omega⟩, WsFrame.epure, WsFrame.ebind_ok, u64_conv, beNat_eq]
      rfl
    · rw [if_neg hc, if_neg hc]; rfl
  · rw [show (4 : Int) = ((2 + 2 : Nat) : Int) from rfl, hs 2]
    by_cases hc : 4 ≤ b.arr.length
    · rw [if_pos hc, if_pos hc, WsFrame.ebind_ok]
      unfold Go.Bytes.uint16BE
      rw [if_pos ⟨Nat.le_refl 2, by simp only [List.length_drop]; omega⟩, WsFrame.epure, WsFrame.ebind_ok,
        u16_conv _ (by simp only [List.length_take]; omega)]
      rfl
    · rw [if_neg hc, if_neg hc]; rfl

theorem model_slice (l : List UInt8) (k : Nat) :
    WsFrame.slice l 2 (2 + k) = if 2 + k ≤ l.length then .ok ((l.drop 2).take k) else .error .sliceBounds := by
  unfold WsFrame.slice
  by_cases hc : 2 + k ≤ l.length
  · rw [if_pos hc, if_pos ⟨by omega, hc⟩, Nat.add_sub_cancel_left]; rfl
  · rw [if_neg hc, if_neg (fun hh => hc hh.2)]; rfl

theorem payloadLength_model (l : List UInt8) (x : UInt8) (h2 : WsFrame.idx l 1 = .ok x) :
    WsFrame.PayloadLength l =
      if (x &&& 127) = 127 then
        (if 10 ≤ l.length then .ok (WsFrame.u64ToInt (WsFrame.beUint ((l.drop 2).take 8))) else .error .sliceBounds)
      else if (x &&& 127) = 126 then
        (if 4 ≤ l.length then .ok (WsFrame.beUint ((l.drop 2).take 2) : Int) else .error .sliceBounds)
      else .ok ((x &&& 127).toNat : Int) := by
  unfold WsFrame.PayloadLength
  rw [h2, show WsFrame.frameHeaderLength = 2 from rfl, model_slice, model_slice, WsFrame.ebind_ok]
  simp only [beq_iff_eq]
  refine ite_congr rfl (fun _ => ?_) fun _ => ite_congr rfl (fun _ => ?_) fun _ => rfl
  · by_cases hc : 10 ≤ l.length
    · rw [if_pos hc, if_pos (by omega)]; rfl
    · rw [if_neg hc, if_neg (by omega)]; rfl
  · by_cases hc : 4 ≤ l.length
    · rw [if_pos hc, if_pos (by omega)]; rfl
    · rw [if_neg hc, if_neg (by omega)]; rfl

theorem payloadLength_eq (l : List UInt8) :
    lift (Frame.PayloadLength (Go.Bytes.ofList l)) = WsFrame.PayloadLength l := by
  rcases idx_cases1 (Go.Bytes.ofList l) with ⟨x, h1, h2, -⟩ | ⟨h1, h2, -⟩
  · rw [toList_ofList] at h2
    rw [payloadLength_gen _ x h1, payloadLength_model l x h2, show (Go.Bytes.ofList l).arr = l from rfl]
    simp only [apply_ite lift, lift_ok, lift_error]
    rfl
  · rw [toList_ofList] at h2
    unfold Frame.PayloadLength WsFrame.PayloadLength
    rw [h1, h2]; rfl

theorem payloadLength_refines (b : Go.Bytes) (v : Int) (h : WsFrame.PayloadLength b.toList = .ok v) :
    Frame.PayloadLength b = .ok v := by
  rcases idx_cases1 b with ⟨x, h1, h2, -⟩ | ⟨h1, h2, -⟩
  · rw [payloadLength_model _ x h2] at h
    rw [payloadLength_gen _ x h1]
    have hl := toList_length b
    by_cases h127 : (x &&& 127) = 127
    · rw [if_pos h127] at h ⊢
      by_cases hc : 10 ≤ b.toList.length
      · rw [if_pos hc] at h
        rw [if_pos (by omega), ← window b 2 8 (by omega)]; cases h; rfl
      · rw [if_neg hc] at h; cases h
    · rw [if_neg h127] at h ⊢
      by_cases h126 : (x &&& 127) = 126
      · rw [if_pos h126] at h ⊢
        by_cases hc : 4 ≤ b.toList.length
        · rw [if_pos hc] at h
          rw [if_pos (by omega), ← window b 2 2 (by omega)]; cases h; rfl
        · rw [if_neg hc] at h; cases h
      · rw [if_neg h126] at h ⊢; cases h; rfl
  · unfold WsFrame.PayloadLength at h
    rw [h2] at h; cases h

theorem u64ToInt_neg (n : Nat) (h1 : 2 ^ 63 ≤ n) (h2 : n < 2 ^ 64) : WsFrame.u64ToInt n < 0 := by
  rw [WsFrame.u64ToInt_eq n h2, if_neg (by omega)]; omega

theorem u64ToInt_id (n : Nat) (h1 : n < 2 ^ 63) : WsFrame.u64ToInt n = n := by
  rw [WsFrame.u64ToInt_eq n (by omega), if_pos h1]

/-! An unsigned integer equals, or is below, a constant exactly when its value is; after that both sides are the same
Boolean combination of comparisons on the value (on `Nat`, `a == b` unfolds to `decide (a = b)`). -/

theorem isReserved_eq (c : UInt8) : Opcode.IsReserved c = WsStream.isReserved c.toNat := by
  unfold Opcode.IsReserved WsStream.isReserved
  simp only [OpcodeContinuation, OpcodeText, OpcodeBinary, OpcodeClose, OpcodePing, OpcodePong, ne_eq,
    ← UInt8.toNat_inj, UInt8.toNat_ofNat, Nat.reducePow, Nat.reduceMod]
  simp only [Bool.decide_and, decide_not]
  rfl

theorem isControl_eq (c : UInt8) : Opcode.IsControl c = WsStream.isControl c.toNat := by
  unfold Opcode.IsControl Opcode.IsPing Opcode.IsPong Opcode.IsClose WsStream.isControl
  simp only [OpcodeClose, OpcodePing, OpcodePong, decide_eq_true_eq,
    ← UInt8.toNat_inj, UInt8.toNat_ofNat, Nat.reducePow, Nat.reduceMod]
  simp only [Bool.decide_or]
  rfl

theorem validCloseCode_eq (c : UInt16) : ValidCloseCode c = Sonic.Spec.WsStream.validCloseCode c.toNat := by
  unfold ValidCloseCode Sonic.Spec.WsStream.validCloseCode
  simp only [CloseNormal, CloseGoingAway, CloseProtocolError, CloseUnknownData, CloseBadPayload, ClosePolicyError, CloseTooBig,
    CloseNeedsExtension, CloseInternalError, CloseServiceRestart, CloseTryAgainLater,
    ← UInt16.toNat_inj, ge_iff_le, UInt16.le_iff_toNat_le, UInt16.toNat_ofNat, Nat.reducePow, Nat.reduceMod]
  simp only [Bool.if_true_left, Bool.or_false, Bool.decide_or, Bool.decide_and]
  rfl

open Sonic.Model.WsEncode (PFrame)

/-- A model frame as a slice value. -/
def toB (f : PFrame) : Go.Bytes := { arr := f.arr, len := f.len }

@[simp] theorem toB_toList (f : PFrame) : (toB f).toList = f.bytes := rfl

theorem modify_eq (f : PFrame) (i : Nat) (g : UInt8 → UInt8) :
    lift (Go.Bytes.idx (toB f) (i : Int) >>= fun x => Go.Bytes.set (toB f) (i : Int) (g x)) = toB <$> f.modify i g := by
  unfold Go.Bytes.idx Go.Bytes.set PFrame.modify toB
  by_cases h : i < f.len ∧ i < f.arr.length
  · have h' : (0 : Int) ≤ (i : Int) ∧ (i : Int).toNat < f.len ∧ (i : Int).toNat < f.arr.length := ⟨by omega, by simpa using h.1, by simpa using h.2⟩
    simp only [if_pos h', if_pos h]
    rw [Int.toNat_natCast]
    rfl
  · have h' : ¬ ((0 : Int) ≤ (i : Int) ∧ (i : Int).toNat < f.len ∧ (i : Int).toNat < f.arr.length) := by
      intro hh; exact h ⟨by simpa using hh.2.1, by simpa using hh.2.2⟩
    simp only [if_neg h', if_neg h]
    rfl

theorem bind_pure_self {α : Type} (r : Except Go.Panic α) : (r >>= fun a => pure a) = r := by
  cases r <;> rfl

theorem setFIN_eq (f : PFrame) : lift (Frame.SetFIN (toB f)) = toB <$> f.SetFIN := modify_eq f 0 (· ||| 0x80)

theorem setRSV1_eq (f : PFrame) : lift (Frame.SetRSV1 (toB f)) = toB <$> f.SetRSV1 := modify_eq f 0 (· ||| 0x40)

theorem setRSV2_eq (f : PFrame) : lift (Frame.SetRSV2 (toB f)) = toB <$> f.SetRSV2 := modify_eq f 0 (· ||| 0x20)

theorem setRSV3_eq (f : PFrame) : lift (Frame.SetRSV3 (toB f)) = toB <$> f.SetRSV3 := modify_eq f 0 (· ||| 0x10)

theorem setIsMasked_eq (f : PFrame) : lift (Frame.SetIsMasked (toB f)) = toB <$> f.SetIsMasked :=
  modify_eq f 1 (· ||| 0x80)

theorem modify_ok {f f2 : PFrame} {i : Nat} {g : UInt8 → UInt8} (h : f.modify i g = .ok f2) :
    f2.len = f.len ∧ f2.arr.length = f.arr.length ∧ i < f.len := by
  unfold PFrame.modify at h
  by_cases hc : i < f.len ∧ i < f.arr.length
  · rw [if_pos hc] at h
    cases h
    exact ⟨rfl, by simp, hc.1⟩
  · rw [if_neg hc] at h; cases h

theorem clearOpcode_eq (f : PFrame) : lift (Frame.clearOpcode (toB f)) = toB <$> f.modify 0 (· &&& 0xf0) :=
  modify_eq f 0 _

theorem setOpcode_eq (f : PFrame) (c : UInt8) : lift (Frame.SetOpcode (toB f) c) = toB <$> f.SetOpcode c :=
  lift_bind toB toB (clearOpcode_eq f) fun f2 => modify_eq f2 0 _

theorem beBytes_eq : ∀ (k n : Nat), Go.beBytes k n = Sonic.Spec.WsFrame.beBytes k n
  | 0, _ => rfl
  | k + 1, n => by unfold Go.beBytes Sonic.Spec.WsFrame.beBytes; rw [beBytes_eq k n]

theorem beBytes_length : ∀ (k n : Nat), (Go.beBytes k n).length = k
  | 0, _ => rfl
  | k + 1, n => by unfold Go.beBytes; simp [beBytes_length k n]

theorem slice_to (a : List UInt8) (l n : Nat) (hn : n ≤ a.length) :
    Go.Bytes.slice ⟨a, l⟩ none (some (n : Int)) = .ok ⟨a, n⟩ := by
  unfold Go.Bytes.slice
  simp only [Option.getD_some, Option.getD_none]
  rw [if_pos ⟨Int.le_refl 0, by omega, by omega⟩]
  rfl

/-- The hypotheses: a slice holds fewer than 2^63 elements. -/
theorem extendSlice_eq (f : PFrame) (need : Nat) (hc : (f.arr.length : Int) ≤ Go.I64MAX) (hn : (need : Int) ≤ Go.I64MAX) :
    ExtendSlice (toB f) need = .ok (toB (f.extend need)) := by
  have hsub : Go.sub (need : Int) (f.arr.length : Int) = (need : Int) - f.arr.length := Go.sub_eq (by omega)
  unfold ExtendSlice PFrame.extend
  rw [show Go.Bytes.cap (toB f) = (f.arr.length : Int) from rfl, show toB f = ⟨f.arr, f.len⟩ from rfl,
    slice_to _ _ _ (Nat.le_refl _), WsFrame.ebind_ok]
  dsimp only
  rw [show Go.Bytes.cap ⟨f.arr, f.arr.length⟩ = (f.arr.length : Int) from rfl, hsub]
  by_cases hgt : need > f.arr.length
  · have ha : Go.Bytes.appendZeros ⟨f.arr, f.arr.length⟩ ((need : Int) - f.arr.length) =
        .ok ⟨f.arr ++ List.replicate (need - f.arr.length) 0, need⟩ := by
      unfold Go.Bytes.appendZeros
      dsimp only
      rw [if_neg (by omega), show ((need : Int) - (f.arr.length : Int)).toNat = need - f.arr.length by omega,
        List.take_length, List.drop_eq_nil_of_le (by omega), List.append_nil,
        show f.arr.length + (need - f.arr.length) = need by omega]
      rfl
    rw [if_pos (by omega), if_pos hgt, ha, WsFrame.ebind_ok,
      slice_to _ _ _ (by rw [List.length_append, List.length_replicate]; omega)]
    rfl
  · rw [if_neg (by omega), if_neg hgt, slice_to _ _ _ (by omega)]
    rfl

theorem putBE_eq (f : PFrame) (k v : Nat) (h2 : 2 ≤ f.len) :
    lift (Go.Bytes.putBEAt (toB f) (2 : Int) k v) = toB <$> f.putBE k v := by
  unfold Go.Bytes.putBEAt PFrame.putBE PFrame.copyAt toB
  have e2 : (2 : Int).toNat = 2 := rfl
  simp only [e2]
  have hmin : k ≤ f.len - 2 → min (f.len - 2) (Sonic.Spec.WsFrame.beBytes k v).length = k := by
    intro hk; rw [← beBytes_eq, beBytes_length]; omega
  have htake : List.take k (Sonic.Spec.WsFrame.beBytes k v) = Sonic.Spec.WsFrame.beBytes k v := by
    apply List.take_of_length_le; rw [← beBytes_eq, beBytes_length]; exact Nat.le_refl _
  have c1 : ((0 : Int) ≤ 2 ∧ (2 : Int) ≤ (f.len : Int)) := ⟨by decide, by omega⟩
  by_cases hk : k ≤ f.len - 2 <;> by_cases hl : f.len ≤ f.arr.length
  · have c2 : ¬ (f.len - 2 < k) := by omega
    simp only [c1, c2, hk, hl, h2, not_true, if_true, if_false, and_self, hmin hk, htake, beBytes_eq]
    rfl
  · have c2 : ¬ (f.len - 2 < k) := by omega
    simp only [c1, c2, hk, hl, h2, not_true, not_false_eq_true, if_true, if_false, and_self, and_false]
    rfl
  · have c2 : (f.len - 2 < k) := by omega
    simp only [c1, c2, hk, hl, h2, not_true, if_true, if_false, and_self, and_false]
    rfl
  · have c2 : (f.len - 2 < k) := by omega
    simp only [c1, c2, hk, hl, h2, not_true, not_false_eq_true, if_true, if_false, and_self, and_false]
    rfl

theorem u64_ofInt (n : Nat) : (UInt64.ofInt (n : Int)).toNat = n % 2 ^ 64 := by
  unfold UInt64.ofInt; rw [UInt64.toNat_ofNat']; omega

theorem u16_ofInt (n : Nat) (h : n ≤ 65535) : (UInt16.ofInt (n : Int)).toNat = n := by
  unfold UInt16.ofInt; rw [UInt16.toNat_ofNat']; omega

theorem u8_ofInt (n : Nat) : UInt8.ofInt (n : Int) = UInt8.ofNat n := by
  rw [← UInt8.toNat_inj]; unfold UInt8.ofInt; rw [UInt8.toNat_ofNat', UInt8.toNat_ofNat']; omega

/-- **`setPayloadLength`**: the generated function is the model's, for every pooled frame (whatever an earlier use left
in it, however short it was cut) and every length a Go slice can have. -/
theorem setPayloadLength_eq (f : PFrame) (n : Nat) (hc : (f.arr.length : Int) ≤ Go.I64MAX) :
    lift (Frame.setPayloadLength (toB f) n) = toB <$> f.setPayloadLength n := by
  have rest : ∀ f1 : PFrame,
      lift (do
        let t ← Go.Bytes.idx (toB f1) (1 : Int)
        let f ← Go.Bytes.set (toB f1) (1 : Int) (t &&& (128 : UInt8))
        if ((n : Int) > (65535 : Int)) then
          let t ← Go.Bytes.idx f (1 : Int)
          let f ← Go.Bytes.set f (1 : Int) (t ||| (127 : UInt8))
          let f ← Go.Bytes.putBEAt f (2 : Int) 8 (UInt64.ofInt n).toNat
          pure f
        else
          if ((n : Int) > (125 : Int)) then
            let t ← Go.Bytes.idx f (1 : Int)
            let f ← Go.Bytes.set f (1 : Int) (t ||| (126 : UInt8))
            let f ← Go.Bytes.putBEAt f (2 : Int) 2 (UInt16.ofInt n).toNat
            pure f
          else
            let t ← Go.Bytes.idx f (1 : Int)
            let f ← Go.Bytes.set f (1 : Int) (t ||| (UInt8.ofInt n))
            pure f) =
      toB <$> (do
        let f ← f1.modify 1 (· &&& 0x80)
        if n > 65535 then
          let f ← f.modify 1 (· ||| 127)
          f.putBE 8 (n % 2 ^ 64)
        else if n > 125 then
          let f ← f.modify 1 (· ||| 126)
          f.putBE 2 n
        else f.modify 1 (· ||| UInt8.ofNat n)) := by
    intro f1
    rw [← bind_assoc]
    refine lift_bind' toB toB (modify_eq f1 1 _) (fun f2 hf2 => ?_)
    by_cases h1 : n > 65535
    · rw [if_pos (by omega), if_pos h1, ← bind_assoc]
      refine lift_bind' toB toB (modify_eq f2 1 _) (fun f3 hf3 => ?_)
      have := modify_ok hf3
      rw [u64_ofInt]
      exact putBE_eq f3 8 _ (by omega)
    · rw [if_neg (by omega), if_neg h1]
      by_cases h2 : n > 125
      · rw [if_pos (by omega), if_pos h2, ← bind_assoc]
        refine lift_bind' toB toB (modify_eq f2 1 _) (fun f3 hf3 => ?_)
        have := modify_ok hf3
        rw [u16_ofInt n (by omega)]
        exact putBE_eq f3 2 _ (by omega)
      · rw [if_neg (by omega), if_neg h2, u8_ofInt]
        exact modify_eq f2 1 (· ||| UInt8.ofNat n)
  unfold Frame.setPayloadLength PFrame.setPayloadLength
  have hlenB : Go.Bytes.length (toB f) = (f.len : Int) := rfl
  rw [hlenB, show frameMaxHeaderLength = (14 : Int) from rfl, show WsFrame.frameMaxHeaderLength = 14 from rfl]
  by_cases hlen : f.len < 14
  · have hE : ExtendSlice (toB f) (14 : Int) = .ok (toB (f.extend 14)) := extendSlice_eq f 14 hc (by unfold Go.I64MAX; omega)
    rw [if_pos (by omega), hE]
    simp only [if_pos hlen]
    exact rest (f.extend 14)
  · rw [if_neg (by omega)]
    simp only [if_neg hlen]
    exact rest f

end Sonic.Lemmas.WsFrameTie
