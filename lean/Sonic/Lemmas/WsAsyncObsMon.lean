/-
Facts about the C17 property monitor (`Sonic.Spec.WsAsync`) used by the refinement proof: the ledger operations, what
the monitor does with each form of event, matching the wire against the frames owed and gathering message fragments.
-/
import Sonic.Spec.WsAsync

namespace Sonic.Spec.WsAsync
open Sonic.Spec.WsStream (Bytes InFrame StreamState replyCode isViolation u16 controlOp)

theorem findCb_some {s : S} {id : Nat} {c : Cb} (h : findCb s id = some c) : c ∈ s.cbs ∧ c.id = id := by
  unfold findCb at h
  exact ⟨List.mem_of_find?_eq_some h, by simpa using List.find?_some h⟩

theorem findCb_isSome_of_mem {s : S} {c : Cb} (h : c ∈ s.cbs) : (findCb s c.id).isSome = true := by
  unfold findCb
  rw [List.find?_isSome]
  exact ⟨c, h, by simp⟩

theorem findCb_none {s : S} {id : Nat} (h : findCb s id = none) : ∀ c ∈ s.cbs, c.id ≠ id := by
  unfold findCb at h
  rw [List.find?_eq_none] at h
  intro c hc e
  exact h c hc (by simp [e])

theorem mem_setCb {s : S} {c x : Cb} : x ∈ (setCb s c).cbs ↔ x = c ∨ (x ∈ s.cbs ∧ x.id ≠ c.id) := by
  simp [setCb, List.mem_filter]

theorem exists_setCb {s : S} {c : Cb} {id : Nat} (h : ∃ x ∈ s.cbs, x.id = id) : ∃ x ∈ (setCb s c).cbs, x.id = id := by
  obtain ⟨x, hx, e⟩ := h
  by_cases e' : x.id = c.id
  · exact ⟨c, mem_setCb.2 (Or.inl rfl), e'.symm.trans e⟩
  · exact ⟨x, mem_setCb.2 (Or.inr ⟨hx, e'⟩), e⟩

/-- Two ledgers hold the same ids and agree on what the coupling reads of an entry (`done`, `kind`). -/
def LedEq (a b : List Cb) : Prop :=
  (∀ c ∈ a, ∃ c0 ∈ b, c.id = c0.id ∧ c.done = c0.done ∧ c.kind = c0.kind) ∧ (∀ c0 ∈ b, ∃ c ∈ a, c.id = c0.id)

theorem LedEq.refl (a : List Cb) : LedEq a a :=
  ⟨fun c hc => ⟨c, hc, rfl, rfl, rfl⟩, fun c hc => ⟨c, hc, rfl⟩⟩

theorem ledEq_setCb {s : S} {c c' : Cb} (hc : c ∈ s.cbs) (hid : c'.id = c.id) (hdone : c'.done = c.done)
    (hkind : c'.kind = c.kind) : LedEq (setCb s c').cbs s.cbs := by
  constructor
  · intro x hx
    rcases mem_setCb.1 hx with rfl | ⟨h1, _⟩
    · exact ⟨c, hc, hid, hdone, hkind⟩
    · exact ⟨x, h1, rfl, rfl, rfl⟩
  · intro c0 hc0
    by_cases e : c0.id = c'.id
    · exact ⟨c', mem_setCb.2 (Or.inl rfl), e.symm⟩
    · exact ⟨c0, mem_setCb.2 (Or.inr ⟨hc0, e⟩), rfl⟩

def started (m : S) (cb : Nat) (k : Kind) : S :=
  { (setCb m { id := cb, kind := k }) with stack := .call (some cb) :: m.stack }

theorem start_fresh {s : S} {cb : Nat} (k : Kind) (h : findCb s cb = none) : start s cb k = .ok (started s cb k) := by
  simp [start, h, started]

theorem findCb_started (m : S) (cb : Nat) (k : Kind) : findCb (started m cb k) cb = some { id := cb, kind := k } := by
  simp [findCb, started, setCb]

theorem step_callWrite {s : S} {cb ty len : Nat} (h : findCb s cb = none) :
    step s (.callWrite cb ty len) = .ok (if s.last == .active && len ≤ s.max
      then (started s cb .write).push (.exact true ty (pattern cb len)) else started s cb .write) := by
  simp only [step, start_fresh _ h]
  rfl

theorem step_callWriteFrame {s : S} {cb op len : Nat} {fin : Bool} (h : findCb s cb = none) :
    step s (.callWriteFrame cb fin op len) = .ok (if s.last == .active
      then (started s cb .writeFrame).push (.exact fin op (pattern cb len)) else started s cb .writeFrame) := by
  simp only [step, start_fresh _ h]
  rfl

theorem step_callClose {s : S} {cb code : Nat} {reason : Bytes} (h : findCb s cb = none) :
    step s (.callClose cb code reason) = .ok (if s.last == .active
      then (started s cb .close).push (.exact true 8 (u16 code ++ reason)) else started s cb .close) := by
  simp only [step, start_fresh _ h]
  rfl

def retCb (s : S) (cb : Nat) : S :=
  match findCb s cb with
  | some c => setCb s { c with returned := true }
  | none => s

theorem retCb_eq (s : S) (cb : Nat) : ∃ cbs, retCb s cb = { s with cbs := cbs } ∧ LedEq cbs s.cbs := by
  unfold retCb
  cases h : findCb s cb with
  | none => exact ⟨s.cbs, rfl, LedEq.refl _⟩
  | some c => exact ⟨_, rfl, ledEq_setCb (findCb_some h).1 rfl rfl rfl⟩

theorem step_ret_call {s : S} {cb : Nat} {r : List Frame} (st : StreamState) (h : s.stack = .call (some cb) :: r) :
    step s (.ret st) = .ok (retCb { s with stack := r, last := st } cb) := by
  simp only [step, h, retCb]
  cases findCb { s with stack := r, last := st } cb <;> rfl

theorem step_ret_poll {s : S} {r : List Frame} (st : StreamState) (h : s.stack = .call none :: r) :
    step s (.ret st) = .ok { s with stack := r, last := st } := by
  simp only [step, h]

theorem step_exit {s : S} {cb : Nat} {r : List Frame} (h : s.stack = .handler cb :: r) :
    step s (.exit cb) = .ok { s with stack := r } := by
  simp [step, h]

def addW (s : S) (ws : List Want) : S := { s with expect := s.expect ++ ws }

theorem addW_nil (s : S) : addW s [] = s := by simp [addW]

theorem pushReply_eq (s : S) (f : InFrame) : pushReply s f = addW s (replyFor s.last f).toList := by
  unfold pushReply
  cases replyFor s.last f with
  | none => simp [addW]
  | some w => rfl

/-- the frames a completed read obliges the client to send -/
def failW (isRead : Bool) (last st : StreamState) (res : Res) : List Want :=
  if isRead && last == .active && st == .closedByUs then
    (if res == .proto then [.closeCode 1002] else if res == .tooBig then [.closeCode 1001] else [])
  else []

theorem pushFailure_eq (s : S) (res : Res) (st : StreamState) : pushFailure s res st = addW s (failW true s.last st res) := by
  unfold pushFailure failW
  simp only [Bool.true_and]
  split
  · split
    · rfl
    · split
      · rfl
      · exact (addW_nil s).symm
  · exact (addW_nil s).symm

theorem failW_notRead (last st : StreamState) (res : Res) : failW false last st res = [] := rfl

def enterPush (k : Kind) (last st : StreamState) (res : Res) (frame : Option InFrame) : List Want :=
  (match frame with
   | some f => if k == .read && res == .ok then (replyFor last f).toList else []
   | none => []) ++ failW k.isRead last st res

/-- the monitor after an accepted `enter`, given the state `s1` after the delivery check -/
def entered (s1 : S) (c : Cb) (cb : Nat) (res : Res) (frame : Option InFrame) (st : StreamState) : S :=
  let s3 := addW s1 (enterPush c.kind s1.last st res frame)
  { (setCb s3 { c with done := true }) with stack := .handler cb :: s3.stack, last := st,
                                             healthy := s3.healthy && res != .err }

def deliver (s : S) (k : Kind) (res : Res) (frame : Option InFrame) (data : Option Bytes) : M S :=
  match k, data with
  | .readMsg, some d => deliverMsg s res d
  | .readMsg, none => deliverMsg s res []
  | _, _ => if k == .read then deliverFrame s res frame else pure s

theorem Kind.not_read {k : Kind} (h : k.isRead = false) : (k == .read) = false ∧ (k == .readMsg) = false := by
  cases k <;> first | exact ⟨rfl, rfl⟩ | cases h

theorem deliver_notRead (s : S) {k : Kind} (h : k.isRead = false) {res : Res} {frame : Option InFrame}
    {data : Option Bytes} : deliver s k res frame data = .ok s := by
  cases k <;> first | rfl | cases h

theorem addW_enterPush_none (s1 : S) (k : Kind) (res : Res) (st : StreamState) :
    (if k.isRead = true then pushFailure s1 res st else s1) = addW s1 (enterPush k s1.last st res none) := by
  unfold enterPush
  cases hk : k.isRead with
  | true => simp only [if_true]; rw [pushFailure_eq]; rfl
  | false => exact (addW_nil s1).symm

theorem addW_enterPush_some (s1 : S) (k : Kind) (res : Res) (f : InFrame) (st : StreamState) :
    (if k.isRead = true then pushFailure (if (k == Kind.read && res == Res.ok) = true then pushReply s1 f else s1) res st
      else (if (k == Kind.read && res == Res.ok) = true then pushReply s1 f else s1)) =
      addW s1 (enterPush k s1.last st res (some f)) := by
  have e2 : (if (k == Kind.read && res == Res.ok) = true then pushReply s1 f else s1) =
      addW s1 (if k == .read && res == .ok then (replyFor s1.last f).toList else []) := by
    split
    · exact pushReply_eq s1 f
    · exact (addW_nil s1).symm
  rw [e2]
  unfold enterPush
  cases hk : k.isRead with
  | true =>
    simp only [if_true]
    rw [pushFailure_eq]
    simp only [addW, List.append_assoc]
  | false =>
    simp only [Bool.false_eq_true, if_false, failW_notRead, List.append_nil]

theorem step_enter {m : S} {cb : Nat} {res : Res} {frame : Option InFrame} {data : Option Bytes} {st : StreamState}
    {c : Cb} {s1 : S} (hf : findCb m cb = some c) (hd : c.done = false)
    (h1 : (!c.kind.isRead && c.returned && res != .ok && m.healthy) = false)
    (h2 : (!c.kind.isRead && !c.returned && (res == .cancelled || res == .eof) && m.last == .active) = false)
    (hdel : deliver m c.kind res frame data = .ok s1) :
    step m (.enter cb res frame data st) = .ok (entered s1 c cb res frame st) := by
  have e : step m (.enter cb res frame data st) =
      (deliver m c.kind res frame data).bind fun s1 => .ok (entered s1 c cb res frame st) := by
    simp only [step, hf, hd, h1, h2, Bool.false_eq_true, if_false, deliver, entered]
    cases frame with
    | none => simp only [addW_enterPush_none]; generalize c.kind = k; cases k <;> cases data <;> rfl
    | some f => simp only [addW_enterPush_some]; generalize c.kind = k; cases k <;> cases data <;> rfl
  rw [e, hdel]
  rfl

theorem step_ctl {s s1 : S} {op : Nat} {payload : Bytes} (st : StreamState) (h : deliverCtl s op payload = .ok s1) :
    step s (.ctl op payload st) =
      .ok { (addW s1 (replyFor s1.last { fin := true, rsv := 0, op := op, masked := false, payload := payload }).toList)
            with last := st } := by
  simp only [step, h, bind, Except.bind, pure, Except.pure, pushReply_eq]

theorem matchWire_ok {α : Type} (want : α → Want) (wf : α → WireFrame) (rest : List Want) :
    ∀ (l : List α), (∀ x ∈ l, (want x).matches (wf x) = true) → matchWire (l.map want ++ rest) (l.map wf) = .ok rest
  | [], _ => by cases rest <;> rfl
  | x :: l, h => by
    have hx := h x (List.mem_cons_self ..)
    simp only [List.map_cons, List.cons_append, matchWire, hx, if_true]
    exact matchWire_ok want wf rest l (fun y hy => h y (List.mem_cons_of_mem _ hy))

theorem step_wire_unhealthy {s : S} (frames : List WireFrame) (h : s.healthy = false) : step s (.wire frames) = .ok s := by
  simp [step, h]

theorem step_wire {s : S} {frames : List WireFrame} {rest : List Want} (h : s.healthy = true)
    (hm : matchWire s.expect frames = .ok rest) : step s (.wire frames) = .ok { s with expect := rest } := by
  simp only [step, h, Bool.not_true, Bool.false_eq_true, if_false, hm]
  rfl

theorem step_finish {s : S} {healthy : Bool}
    (h : healthy = true → s.healthy = true → s.cbs.any (fun c => !c.done) = false ∧ s.expect = []) :
    step s (.finish 0 healthy) = .ok s := by
  simp only [step]
  cases hh : (healthy && s.healthy) with
  | false => rfl
  | true =>
    obtain ⟨h1, h2⟩ := h (Bool.and_eq_true_iff.1 hh).1 (Bool.and_eq_true_iff.1 hh).2
    simp [h1, h2]

theorem takeData_frags (rest : List InFrame) : ∀ (frags : List InFrame) (acc : Bytes) (n : Nat),
    (∀ g ∈ frags, controlOp g.op = false ∧ g.fin = false) → frags.length < n →
    takeData n (frags ++ rest) acc = takeData (n - frags.length) rest (acc ++ frags.flatMap (·.payload))
  | [], acc, n, _, _ => by simp
  | g :: frags, acc, n + 1, h, hn => by
    obtain ⟨h1, h2⟩ := h g (List.mem_cons_self ..)
    simp only [List.cons_append, takeData, h1, h2, Bool.false_eq_true, if_false, List.length_cons]
    rw [takeData_frags rest frags (acc ++ g.payload) n (fun y hy => h y (List.mem_cons_of_mem _ hy))
      (by simpa using hn)]
    simp [List.append_assoc]

theorem takeData_upto {q frags rest : List InFrame} {g : InFrame} (acc : Bytes) (hq : q = frags ++ g :: rest)
    (h : ∀ x ∈ frags, controlOp x.op = false ∧ x.fin = false) :
    takeData (q.length + 1) q acc =
      if controlOp g.op then (acc ++ frags.flatMap (·.payload), false, g :: rest)
      else if g.fin then (acc ++ frags.flatMap (·.payload) ++ g.payload, true, rest)
      else takeData (rest.length + 1) rest (acc ++ frags.flatMap (·.payload) ++ g.payload) := by
  subst hq
  rw [takeData_frags (g :: rest) frags acc _ h (by simp only [List.length_append, List.length_cons]; omega),
    show (frags ++ g :: rest).length + 1 - frags.length = (rest.length + 1) + 1 from by
      simp only [List.length_append, List.length_cons]; omega]
  rfl

end Sonic.Spec.WsAsync
