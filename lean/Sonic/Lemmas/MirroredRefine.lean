/-
Helper lemmas for C11: the two simulation steps. One step of the implementation model
(`Sonic.Model.Mirrored.step` over the definitions regenerated from mirrored_buffer.go) is accepted by the
compact ring monitor, and a step the compact monitor accepts is accepted by the reference (cell-queue) monitor.
-/
import Sonic.Lemmas.MirroredFacts

namespace Sonic.Props.C11
open Sonic.Gen.MirroredBuffer Sonic.Spec.Mirrored Sonic.Model.Mirrored
open Sonic.Spec.Bip (imin cells mem_cells)

/-- Coupling between the implementation model's state and the compact monitor's (the first of the two simulations). -/
def R1 (m : St) (c : C) : Prop :=
  m.cLo = c.cLo ∧ m.cLen = c.cLen ∧ m.mem = c.mem ∧
  ((m.buf = none ∧ c.live = false) ∨
   (∃ b, m.buf = some b ∧ Inv b ∧ c.live = true ∧ c.size = b.size ∧ c.next = b.tail ∧ c.used = b.used))

theorem cstep_dead (c : C) (h : c.live = false) (op : Op) (hop : ∀ r p, op ≠ .new r p) (ob : Obs) :
    cstep c op ob = if ob = .nobuf then some c else none := by
  unfold cstep
  split
  · exact absurd rfl (hop _ _)
  · rw [if_pos h]

theorem inv_commit {b : MirroredBuffer} {n : Int} (hi : Inv b) (hn : 0 ≤ n) : Inv (b.Commit n).1 := by
  rw [Commit_eq hi hn]
  obtain ⟨g0, g1, g2, g3, g4, g5, g6, g7, g8⟩ := hi
  have hk0 : 0 ≤ imin n (b.size - b.used) := imin_nonneg hn (by omega)
  have hk1 := imin_le_right n (b.size - b.used)
  refine ⟨g0, g1, ?_, ?_, g4, g5, Int.emod_nonneg _ (by omega), Int.emod_lt_of_pos _ g0, ?_⟩
  · show 0 ≤ b.used + imin n (b.size - b.used)
    omega
  · show b.used + imin n (b.size - b.used) ≤ b.size
    omega
  · show (b.tail + imin n (b.size - b.used)) % b.size = (b.head + (b.used + imin n (b.size - b.used))) % b.size
    rw [g8, Int.emod_add_emod, Int.add_assoc]

theorem inv_consume {b : MirroredBuffer} {n : Int} (hi : Inv b) (hn : 0 ≤ n) : Inv (b.Consume n).1 := by
  rw [Consume_eq hi hn]
  obtain ⟨g0, g1, g2, g3, g4, g5, g6, g7, g8⟩ := hi
  have hk0 : 0 ≤ imin n b.used := imin_nonneg hn g2
  have hk1 := imin_le_right n b.used
  refine ⟨g0, g1, ?_, ?_, Int.emod_nonneg _ (by omega), Int.emod_lt_of_pos _ g0, g6, g7, ?_⟩
  · show 0 ≤ b.used - imin n b.used
    omega
  · show b.used - imin n b.used ≤ b.size
    omega
  · show b.tail = ((b.head + imin n b.used) % b.size + (b.used - imin n b.used)) % b.size
    rw [g8, Int.emod_add_emod]
    congr 1; omega

theorem inv_reset {b : MirroredBuffer} (hi : Inv b) : Inv b.Reset :=
  ⟨hi.1, hi.2.1, Int.le_refl 0, Int.le_of_lt hi.1, Int.le_refl 0, hi.1, Int.le_refl 0, hi.1, (Int.zero_emod _).symm⟩

theorem step_refines1 (m : St) (c : C) (op : Op) (hR : R1 m c) (hop : OpOk op) :
    ∃ c', cstep c op (Model.Mirrored.step m op).2 = some c' ∧ R1 (Model.Mirrored.step m op).1 c' := by
  have hR0 := hR
  obtain ⟨hlo, hlen, hmem, hbuf⟩ := hR
  -- `new` does not look at the old state
  by_cases hnew : ∃ r p, op = .new r p
  · obtain ⟨req, page, rfl⟩ := hnew
    obtain ⟨hp, hp', hreq⟩ := hop
    simp only [Model.Mirrored.step]
    cases hrs : roundSize page req with
    | none => exact ⟨cdead, rfl, rfl, rfl, rfl, Or.inl ⟨rfl, rfl⟩⟩
    | some size =>
      obtain ⟨f1, f2, f3, f4, f5⟩ := roundSize_facts hp hp' hreq hrs
      by_cases hmap : mappable size = true
      · simp only [hmap, if_true]
        have hok : NewOk req page size := ⟨hp, f1, f2, f3, f4⟩
        refine ⟨cfresh size, by simp [cstep, hok], rfl, rfl, rfl, Or.inr ⟨mk size, rfl, ?_, rfl, rfl, rfl, rfl⟩⟩
        exact inv_mk size f1 (mappable_facts f1 f5 hmap)
      · simp only [hmap]
        exact ⟨cdead, rfl, rfl, rfl, rfl, Or.inl ⟨rfl, rfl⟩⟩
  · have hnn : ∀ r p, op ≠ .new r p := fun r p h => hnew ⟨r, p, h⟩
    rcases hbuf with ⟨hb, hl⟩ | ⟨b, hb, hi, hl, hsz, hnx, hus⟩
    · -- no buffer: every operation answers `nobuf`
      have hs : Model.Mirrored.step m op = (m, .nobuf) := by
        unfold Model.Mirrored.step
        split
        · exact absurd rfl (hnn _ _)
        · rw [hb]
      rw [hs]
      exact ⟨c, by rw [cstep_dead c hl op hnn, if_pos rfl], hR0⟩
    · have hbd := hi.bounds
      have hfree : c.free = b.size - b.used := by unfold C.free; rw [hsz, hus]
      cases op
      all_goals simp only [Model.Mirrored.step, hb]
      case new r p => exact absurd rfl (hnn r p)
      case claim n =>
        obtain ⟨hv, hk, hkl⟩ := claim_facts hi hop
        have hk0 : 0 ≤ imin n (b.size - b.used) := imin_nonneg hop (by omega)
        have hk1 := imin_le_right n (b.size - b.used)
        simp only [hv]
        by_cases hz : (b.Claim n).hi - (b.Claim n).lo ≤ 0
        · have hok : CClaimOk c n 0 0 := ⟨by rw [hfree]; omega, Or.inl rfl⟩
          simp only [hz, if_true, Bool.true_eq_false, if_false]
          exact ⟨{ c with cLo := 0, cLen := 0 }, by simp [cstep, hl, hok], rfl, rfl, hmem, Or.inr ⟨b, rfl, hi, hl, hsz, hnx, hus⟩⟩
        · have hlo' := hkl (by omega)
          have hok : CClaimOk c n (b.Claim n).lo ((b.Claim n).hi - (b.Claim n).lo) := by
            refine ⟨by rw [hfree]; exact hk, Or.inr ⟨by omega, by rw [hsz]; omega, ?_⟩⟩
            rw [hlo', hsz, hnx]; exact Int.emod_eq_of_lt (by omega) (by omega)
          simp only [hz, if_false, Bool.true_eq_false]
          exact ⟨{ c with cLo := (b.Claim n).lo, cLen := (b.Claim n).hi - (b.Claim n).lo },
            by simp [cstep, hl, hok], rfl, rfl, hmem, Or.inr ⟨b, rfl, hi, hl, hsz, hnx, hus⟩⟩
      case commit n =>
        have hinv := inv_commit hi hop
        rw [Commit_eq hi hop] at hinv ⊢
        dsimp only at hinv ⊢
        refine ⟨{ c with used := c.used + imin n (b.size - b.used), next := (c.next + imin n (b.size - b.used)) % c.size },
          by simp [cstep, hl, hfree], hlo, hlen, hmem, Or.inr ⟨_, rfl, hinv, hl, hsz, ?_, ?_⟩⟩
        · show (c.next + _) % c.size = (b.tail + _) % b.size
          rw [hnx, hsz]
        · show c.used + _ = b.used + _
          rw [hus]
      case consume n =>
        have hinv := inv_consume hi hop
        rw [Consume_eq hi hop] at hinv ⊢
        dsimp only at hinv ⊢
        refine ⟨{ c with used := c.used - imin n b.used }, by simp [cstep, hl, hus], hlo, hlen, hmem,
          Or.inr ⟨_, rfl, hinv, hl, hsz, hnx, ?_⟩⟩
        show c.used - _ = b.used - _
        rw [hus]
      case free => exact ⟨c, by simp [cstep, hl, hfree, FreeSpace_eq hi], hR0⟩
      case used => exact ⟨c, by simp [cstep, hl, hus, MirroredBuffer.UsedSpace], hR0⟩
      case full => exact ⟨c, by simp [cstep, hl, hus, hsz, MirroredBuffer.Full], hR0⟩
      case size => exact ⟨c, by simp [cstep, hl, hsz, MirroredBuffer.Size], hR0⟩
      case read off len => exact ⟨c, by simp [cstep, hl, hsz, hmem], hR0⟩
      case reset =>
        exact ⟨{ c with used := 0, next := 0 }, by simp [cstep, hl], hlo, hlen, hmem,
          Or.inr ⟨b.Reset, rfl, inv_reset hi, hl, hsz, rfl, rfl⟩⟩
      case write seed =>
        refine ⟨{ c with mem := store c.mem c.size c.cLo c.cLen seed }, by simp [cstep, hl], hlo, hlen, ?_, Or.inr ⟨b, rfl, hi, hl, hsz, hnx, hus⟩⟩
        show store m.mem b.size m.cLo m.cLen seed = store c.mem c.size c.cLo c.cLen seed
        rw [hmem, hsz, hlo, hlen]
      case prefault =>
        refine ⟨{ c with mem := zeros c.size }, by simp [cstep, hl], hlo, hlen, ?_, Or.inr ⟨b, rfl, hi, hl, hsz, hnx, hus⟩⟩
        show zeros b.size = zeros c.size
        rw [hsz]
      case destroy => exact ⟨cdead, by simp [cstep, hl], rfl, rfl, rfl, Or.inl ⟨rfl, rfl⟩⟩

theorem run_accepted1 (m : St) (c : C) (ops : List Op) (hR : R1 m c) (hops : ∀ op ∈ ops, OpOk op) :
    caccepts c (run m ops) = true := by
  induction ops generalizing m c with
  | nil => rfl
  | cons op r ih =>
    obtain ⟨c', h1, h2⟩ := step_refines1 m c op hR (hops op (List.mem_cons_self ..))
    simp only [run, caccepts, h1]
    exact ih _ _ h2 (fun o ho => hops o (List.mem_cons_of_mem _ ho))

/-- Coupling between the compact monitor's state and the reference (cell-queue) monitor's (the second simulation): the
compact state stands for the reference state whose queue is the `used` ring cells that end just before `next`. -/
def R2 (c : C) (s : S) : Prop :=
  s.live = c.live ∧ s.size = c.size ∧ s.next = c.next ∧ s.cLo = c.cLo ∧ s.cLen = c.cLen ∧ s.mem = c.mem ∧
  s.q = ringCells c.size (c.next - c.used) c.used ∧
  (c.live = true → 0 < c.size ∧ 0 ≤ c.used ∧ c.used ≤ c.size ∧ 0 ≤ c.next ∧ c.next < c.size)

theorem R2_dead : R2 cdead dead :=
  ⟨rfl, rfl, rfl, rfl, rfl, rfl, rfl, fun h => absurd h (by simp [cdead])⟩

theorem R2_fresh (size : Int) (h : 0 < size) : R2 (cfresh size) (fresh size) :=
  ⟨rfl, rfl, rfl, rfl, rfl, rfl, rfl, fun _ => ⟨h, Int.le_refl 0, by show (0:Int) ≤ size; omega, Int.le_refl 0, h⟩⟩

theorem step_dead (s : S) (h : s.live = false) (op : Op) (hop : ∀ r p, op ≠ .new r p) (ob : Obs) :
    Spec.Mirrored.step s op ob = if ob = .nobuf then some s else none := by
  unfold Spec.Mirrored.step
  split
  · exact absurd rfl (hop _ _)
  · rw [if_pos h]

theorem compact_step_sound (c c' : C) (s : S) (op : Op) (ob : Obs) (hR : R2 c s) (hop : OpOk op)
    (hc : cstep c op ob = some c') : ∃ s', Spec.Mirrored.step s op ob = some s' ∧ R2 c' s' := by
  have hR0 := hR
  obtain ⟨hlive, hsz, hnx, hlo, hlen, hmem, hq, hwf⟩ := hR
  by_cases hnew : ∃ r p, op = .new r p
  · obtain ⟨req, page, rfl⟩ := hnew
    simp only [cstep] at hc
    split at hc
    all_goals simp only [Spec.Mirrored.step]
    · obtain ⟨hok, rfl⟩ := Option.ite_some_none_eq_some.mp hc
      exact ⟨fresh _, if_pos hok, R2_fresh _ hok.2.1⟩
    · cases hc
      exact ⟨dead, rfl, R2_dead⟩
    · cases hc
  · have hnn : ∀ r p, op ≠ .new r p := fun r p h => hnew ⟨r, p, h⟩
    by_cases hl : c.live = false
    · rw [cstep_dead c hl op hnn] at hc
      obtain ⟨hob, rfl⟩ := Option.ite_some_none_eq_some.mp hc
      rw [step_dead s (hlive.trans hl) op hnn, if_pos hob]
      exact ⟨s, rfl, hR0⟩
    · have hsl : s.live = true := by rw [hlive]; exact (Bool.not_eq_false _).mp hl
      have hcl : c.live = true := hlive.symm.trans hsl
      obtain ⟨w1, w2, w3, w4, w5⟩ := hwf hcl
      have husd : s.used = c.used := by
        unfold S.used; rw [hq, length_ringCells]; omega
      have hfree : s.free = c.free := by unfold S.free C.free; rw [husd, hsz]
      -- the cases of `cstep`'s own match: the twelve pairs of a call and an answer of its kind
      unfold cstep at hc
      split at hc
      · exact absurd rfl (hnn _ _)
      rw [if_neg hl] at hc
      split at hc
      all_goals simp only [Spec.Mirrored.step, hsl, Bool.true_eq_false, ↓reduceIte]
      · -- claim
        rename_i n lo len _
        obtain ⟨⟨h1, h2⟩, rfl⟩ := Option.ite_some_none_eq_some.mp hc
        have hok' : ClaimOk s n lo len := by
          refine ⟨by rw [hfree]; exact h1, ?_⟩
          rcases h2 with h2 | ⟨h2, h3, h4⟩
          · exact Or.inl h2
          · refine Or.inr ⟨h2, by rw [hsz]; exact h3, by rw [hsz, hnx]; exact h4, ?_⟩
            rw [hq, hsz]
            have hle : len ≤ c.size - c.used := by rw [h1]; exact imin_le_right _ _
            exact ring_disjoint (by omega) (by rw [h4, Int.emod_eq_of_lt w4 w5])
        exact ⟨_, if_pos hok', hcl.symm, hsz, hnx, rfl, rfl, hmem, hq, hwf⟩
      · -- commit
        rename_i n k _
        obtain ⟨rfl, rfl⟩ := Option.ite_some_none_eq_some.mp hc
        have hk0 : 0 ≤ imin n c.free := imin_nonneg hop (by unfold C.free; omega)
        have hk1 : imin n c.free ≤ c.size - c.used := imin_le_right _ _
        refine ⟨_, if_pos (by rw [hfree]), hcl.symm, hsz, by rw [hnx, hsz], hlo, hlen, hmem, ?_, fun _ => ?_⟩
        · show s.q ++ ringCells s.size s.next _ = ringCells c.size ((c.next + imin n c.free) % c.size - (c.used + imin n c.free)) (c.used + imin n c.free)
          have h1 := @ringCells_append c.size (c.next - c.used) c.used (imin n c.free) w2 hk0
          rw [show c.next - c.used + c.used = c.next by omega] at h1
          rw [hq, hsz, hnx, h1]
          exact (ringCells_back _ (by rw [Int.emod_emod]; congr 1; omega)).symm
        · exact ⟨w1, by show 0 ≤ c.used + _; omega, by show c.used + _ ≤ c.size; omega,
            Int.emod_nonneg _ (by omega), Int.emod_lt_of_pos _ w1⟩
      · -- consume
        rename_i n k _
        obtain ⟨rfl, rfl⟩ := Option.ite_some_none_eq_some.mp hc
        have hk0 : 0 ≤ imin n c.used := imin_nonneg hop w2
        have hk1 : imin n c.used ≤ c.used := imin_le_right _ _
        refine ⟨_, if_pos (by rw [husd]), hcl.symm, hsz, hnx, hlo, hlen, hmem, ?_, fun _ => ?_⟩
        · show s.q.drop _ = ringCells c.size (c.next - (c.used - imin n c.used)) (c.used - imin n c.used)
          rw [hq, drop_ringCells hk0 hk1]
          congr 1; omega
        · exact ⟨w1, by show 0 ≤ c.used - _; omega, by show c.used - _ ≤ c.size; omega, w4, w5⟩
      · -- used
        obtain ⟨rfl, rfl⟩ := Option.ite_some_none_eq_some.mp hc
        exact ⟨s, if_pos husd.symm, hR0⟩
      · -- free
        obtain ⟨rfl, rfl⟩ := Option.ite_some_none_eq_some.mp hc
        exact ⟨s, if_pos hfree.symm, hR0⟩
      · -- full
        obtain ⟨rfl, rfl⟩ := Option.ite_some_none_eq_some.mp hc
        exact ⟨s, if_pos (by rw [husd, hsz]), hR0⟩
      · -- size
        obtain ⟨rfl, rfl⟩ := Option.ite_some_none_eq_some.mp hc
        exact ⟨s, if_pos hsz.symm, hR0⟩
      · -- reset
        cases hc
        refine ⟨_, rfl, hcl.symm, hsz, rfl, hlo, hlen, hmem, ?_,
          fun _ => ⟨w1, Int.le_refl 0, by show (0:Int) ≤ c.size; omega, Int.le_refl 0, w1⟩⟩
        show [] = ringCells c.size (0 - 0) 0
        rw [ringCells_nonpos (Int.le_refl 0)]
      · -- write
        cases hc
        refine ⟨_, rfl, hcl.symm, hsz, hnx, hlo, hlen, ?_, hq, hwf⟩
        show store s.mem s.size s.cLo s.cLen _ = store c.mem c.size c.cLo c.cLen _
        rw [hmem, hsz, hlo, hlen]
      · -- prefault
        cases hc
        refine ⟨_, rfl, hcl.symm, hsz, hnx, hlo, hlen, ?_, hq, hwf⟩
        show zeros s.size = zeros c.size
        rw [hsz]
      · -- read
        obtain ⟨rfl, rfl⟩ := Option.ite_some_none_eq_some.mp hc
        exact ⟨s, if_pos (by rw [hsz, hmem]), hR0⟩
      · -- destroy
        obtain ⟨hv, rfl⟩ := Option.ite_some_none_eq_some.mp hc
        exact ⟨dead, if_pos hv, R2_dead⟩
      · cases hc
end Sonic.Props.C11
