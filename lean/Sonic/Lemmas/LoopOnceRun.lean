/-
Exactly-once, lifted from single transitions to whole histories.
-/
import Sonic.Lemmas.LoopKinds
import Sonic.Lemmas.LoopOnceStep
import Sonic.Lemmas.LoopAcct

namespace Sonic.Model.Loop
open Sonic.Spec.Loop (Ev Ret Res OpKind ObjKind maxDispatch)

def enterCount (x : Nat) : List Ev → Int
  | [] => 0
  | e :: r => entersOf x e + enterCount x r

def startCount (x : Nat) : List Ev → Int
  | [] => 0
  | e :: r => startsOf x e + startCount x r

theorem enterCount_nonneg (x : Nat) : ∀ evs : List Ev, 0 ≤ enterCount x evs
  | [] => Int.le_refl 0
  | e :: r => by
    refine Int.add_nonneg ?_ (enterCount_nonneg x r)
    unfold entersOf
    split
    · exact ind_nonneg _
    · exact Int.le_refl 0

theorem getOp_mono_run {w w' : World} {evs : List Ev} (h : run w evs = some w') {x : Nat} {info : OpInfo}
    (hx : getOp w x = some info) : getOp w' x = some info :=
  run_invariant (P := fun w => getOp w x = some info) (fun _ _ _ hx hs => getOp_mono_step hs hx) hx h

theorem rearms_only_rep (x : Nat) (w : World) (e : Ev) (hk : KindOk w) (hr : rearmsOf x w e ≠ 0) :
    ∃ info, getOp w x = some info ∧ info.kind = .timerRep := by
  cases e with
  | exit op =>
    simp only [rearmsOf] at hr
    split at hr
    · rename_i op' k c rest hst
      by_cases hx : op = x ∧ op' = x
      · have hk' : RepOk w.ops (.user op' (.timerDone k true c) :: rest) := hst ▸ hk
        rw [← hx.2]; exact hk'.1
      · simp [hx] at hr
    · exact absurd rfl hr
  | _ => exact absurd rfl hr

/-- **Reference accounting over a whole history**, for an operation that is not a repeating timer.  A step needs the
ids of the objects to be distinct (`step_refs`); that is kept along a history as the first half of `AcctInv`
(`step_acct`), hence the hypothesis. -/
theorem run_refs (x : Nat) : ∀ (evs : List Ev) (w w' : World), run w evs = some w' → AcctInv w → KindOk w →
    (∀ info, getOp w' x = some info → info.kind ≠ .timerRep) →
    refs w' x + enterCount x evs ≤ refs w x + startCount x evs
  | [], w, w', h, _, _, _ => by simp only [run] at h; cases h; simp [enterCount, startCount]
  | e :: r, w, w', h, hI, hk, hnr => by
    simp only [run] at h
    cases hs : step w e with
    | none => simp [hs] at h
    | some w1 =>
      simp only [hs] at h
      have ih := run_refs x r w1 w' h (step_acct w w1 e hI hs) (kindOk_step hk hs) hnr
      have h1 := step_refs x w w1 e hI.1 hs
      -- a re-arming step would make `x` a repeating timer for good
      have h0 : rearmsOf x w e = 0 := by
        by_cases hz : rearmsOf x w e = 0
        · exact hz
        · obtain ⟨info, hg, hrep⟩ := rearms_only_rep x w e hk hz
          exact absurd hrep (hnr info (getOp_mono_run h (getOp_mono_step hs hg)))
      simp only [enterCount, startCount]
      omega

end Sonic.Model.Loop
