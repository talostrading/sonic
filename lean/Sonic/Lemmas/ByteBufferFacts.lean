/-
Helper lemmas for C09: the coupling `R` between the implementation model of byte_buffer.go
(`Sonic.Model.ByteBuffer`) and the three-list specification (`Sonic.Spec.ByteBuffer`); what `copy` and
reslicing do to lists; the accessors and the elementary changes of state under the coupling.
-/
import Sonic.Model.ByteBuffer

namespace Sonic.Props.C09
open Sonic.Spec.ByteBuffer Sonic.Model.ByteBuffer

def R (b : BB) (s : S) : Prop :=
  b.si = s.saved.length ∧ b.ri = (s.saved.length : Int) + s.readable.length ∧
  b.wi = (s.saved.length : Int) + s.readable.length + s.pending.length ∧
  b.data = s.saved ++ s.readable ++ s.pending ∧ b.wi ≤ b.cap ∧ b.cap ≤ Go.I64MAX ∧ s.cap = b.cap ∧ s.void = false

variable {b : BB} {s : S}

theorem R.wi_le_cap (hR : R b s) : b.wi ≤ b.cap := hR.2.2.2.2.1
theorem R.cap_le (hR : R b s) : b.cap ≤ Go.I64MAX := hR.2.2.2.2.2.1
theorem R.cap_eq (hR : R b s) : s.cap = b.cap := hR.2.2.2.2.2.2.1
theorem R.not_void (hR : R b s) : s.void = false := hR.2.2.2.2.2.2.2

theorem copyWithin_remove (A B C : List UInt8) :
    (copyWithin (A ++ B ++ C) A.length (A.length + B.length) (A.length + B.length + C.length)).take (A.length + C.length)
      = A ++ C := by
  unfold copyWithin
  simp [List.take_append]
  exact List.take_of_length_le (by lia)

/-- What `copy` followed by the reslice does in `Consume`/`Discard`. -/
theorem remove_eq {A B C : List UInt8} {i j hi n : Int}
    (hi1 : i = A.length) (hj : j = (A.length : Int) + B.length) (hhi : hi = (A.length : Int) + B.length + C.length)
    (hn : n = (A.length : Int) + C.length) :
    (copyWithin (A ++ B ++ C) i.toNat j.toNat hi.toNat).take n.toNat = A ++ C := by
  subst hi1 hj hhi hn
  simp only [← Int.natCast_add, Int.toNat_natCast]
  exact copyWithin_remove A B C

theorem mid_eq (A B C : List UInt8) (lo hi : Int) (hlo : lo = A.length) (hhi : hi = (A.length : Int) + B.length) :
    ((A ++ B ++ C).take hi.toNat).drop lo.toNat = B := by
  subst hlo hhi
  rw [← Int.natCast_add, ← List.length_append, Int.toNat_natCast, Int.toNat_natCast, List.take_left' rfl, List.drop_left' rfl]

theorem clamp_pos (n : Int) (l : List UInt8) (hn : 0 < n) :
    ∃ m : Nat, (if n > (l.length : Int) then (l.length : Int) else n) = m ∧ m ≤ l.length ∧
      l.drop n.toNat = l.drop m ∧ l.take n.toNat = l.take m ∧ m = min n.toNat l.length := by
  by_cases h : n > (l.length : Int)
  · refine ⟨l.length, by rw [if_pos h], Nat.le_refl _, ?_, ?_, by lia⟩
    · rw [List.drop_of_length_le (by lia), List.drop_of_length_le (Nat.le_refl _)]
    · rw [List.take_of_length_le (by lia), List.take_of_length_le (Nat.le_refl _)]
  · refine ⟨n.toNat, by rw [if_neg h]; lia, by lia, rfl, rfl, by lia⟩

theorem split3 (l : List UInt8) (i k : Nat) :
    l = l.take i ++ (l.drop i).take k ++ l.drop (i + k) := by
  rw [List.append_assoc, ← List.drop_drop, List.take_append_drop, List.take_append_drop]

theorem drop_min_length (l : List UInt8) (n : Nat) : l.drop (min n l.length) = l.drop n := by
  by_cases h : n ≤ l.length
  · rw [Nat.min_eq_left h]
  · rw [Nat.min_eq_right (by lia), List.drop_of_length_le (Nat.le_refl _), List.drop_of_length_le (by lia)]

theorem take_min_length (l : List UInt8) (n : Nat) : l.take (min n l.length) = l.take n := by
  rw [List.take_eq_take_iff, Nat.min_assoc, Nat.min_self]

theorem length_pattern (seed : UInt8) (n : Nat) : (pattern seed n).length = n := by
  simp only [pattern, List.length_map, List.length_range]

/-- The invariant the source file states. -/
theorem idx_R (hR : R b s) :
    0 ≤ b.si ∧ b.si ≤ b.ri ∧ b.ri ≤ b.wi ∧ b.wi = b.data.length ∧ b.wi ≤ b.cap ∧ b.cap ≤ Go.I64MAX := by
  obtain ⟨h1, h2, h3, h4, h5, h6, _, _⟩ := hR
  obtain ⟨i0, i1, i2⟩ : 0 ≤ b.si ∧ b.si ≤ b.ri ∧ b.ri ≤ b.wi := by lia
  refine ⟨i0, i1, i2, ?_, h5, h6⟩
  rw [h4, h3, List.length_append, List.length_append, Int.natCast_add, Int.natCast_add]

theorem R.wi_eq_len (hR : R b s) : b.wi = b.data.length := (idx_R hR).2.2.2.1

theorem readLen_R (hR : R b s) : b.ReadLen = some (s.readable.length : Int) := by
  obtain ⟨i0, i1, i2, _, i4, i5⟩ := idx_R hR
  unfold BB.ReadLen
  rw [if_pos ⟨i0, i1, Int.le_trans i2 i4⟩, Go.sub_eq (by lia), hR.2.1, hR.1, Int.add_comm, Int.add_sub_cancel]

theorem writeLen_R (hR : R b s) : b.WriteLen = some (s.pending.length : Int) := by
  obtain ⟨i0, i1, i2, _, i4, i5⟩ := idx_R hR
  unfold BB.WriteLen
  rw [if_pos ⟨Int.le_trans i0 i1, i2, i4⟩, Go.sub_eq (by lia), hR.2.2.1, hR.2.1, Int.add_comm, Int.add_sub_cancel]

theorem saveLen_R (hR : R b s) : b.SaveLen = some (s.saved.length : Int) := by
  obtain ⟨i0, i1, i2, _, i4, i5⟩ := idx_R hR
  unfold BB.SaveLen
  rw [if_pos ⟨Int.le_refl 0, i0, by lia⟩, Go.sub_eq (by lia), hR.1, Int.sub_zero]

theorem reslice_eq {si ri wi c n : Int} {d : List UInt8} (h : 0 ≤ n ∧ n ≤ c) :
    BB.reslice ⟨si, ri, wi, d, c⟩ n = some ⟨si, ri, wi, d.take n.toNat, c⟩ :=
  if_pos ⟨Int.le_refl 0, h⟩

theorem len_R (hR : R b s) : b.len = s.len := by
  obtain ⟨h1, h2, h3, h4, h5, h6, h7, h8⟩ := hR
  unfold BB.len S.len; rw [h4]; simp only [List.length_append]; lia

theorem wi_R (hR : R b s) : b.wi = s.len := by
  obtain ⟨h1, h2, h3, h4, h5, h6, h7, h8⟩ := hR
  unfold S.len; lia

theorem bytes_R (hR : R b s) :
    b.bytes 0 b.si = s.saved ∧ b.bytes b.si b.ri = s.readable ∧ b.bytes b.ri b.wi = s.pending := by
  obtain ⟨h1, h2, h3, h4, _, _, _, _⟩ := hR
  unfold BB.bytes
  rw [h4]
  have e1 := mid_eq [] s.saved (s.readable ++ s.pending) 0 b.si rfl (by rw [h1]; exact (Int.zero_add _).symm)
  have e3 := mid_eq (s.saved ++ s.readable) s.pending [] b.ri b.wi (by rw [h2, List.length_append, Int.natCast_add])
    (by rw [h3, List.length_append, Int.natCast_add])
  rw [List.nil_append, ← List.append_assoc] at e1
  rw [List.append_nil] at e3
  exact ⟨e1, mid_eq s.saved s.readable s.pending b.si b.ri h1 h2, e3⟩

theorem bytes_from (hR : R b s) (w : Nat) :
    b.bytes (b.si + w) b.ri = s.readable.drop w := by
  obtain ⟨h1, h2, h3, h4, h5, h6, h7, h8⟩ := hR
  unfold BB.bytes
  rw [h4, h2, h1, ← Int.natCast_add, ← Int.natCast_add, Int.toNat_natCast, Int.toNat_natCast, ← List.length_append,
    List.take_left' rfl, List.drop_append, List.drop_of_length_le (by lia), List.nil_append]
  congr 1; lia

theorem dump_R (hR : R b s) :
    b.dump = some { saved := s.saved, readable := s.readable, pending := s.pending,
                    len := s.len, cap := b.cap, reserved := b.cap - s.len } := by
  obtain ⟨e1, e2, e3⟩ := bytes_R hR
  obtain ⟨i0, i1, i2, i3, i4, i5⟩ := idx_R hR
  unfold BB.dump
  rw [saveLen_R hR, readLen_R hR, writeLen_R hR]
  dsimp only
  rw [if_pos (by unfold BB.len; lia), Go.sub_eq (by lia), e1, e2, e3, len_R hR, wi_R hR]

theorem room_R (hR : R b s) : s.room = b.cap - b.wi := by
  unfold S.room; rw [hR.cap_eq, wi_R hR]

/-- `b.data[b.wi:cap(b.data)]`: the room handed to `Claim`'s callee and to `ReadFrom`'s reader. -/
theorem sliceOk_room (hR : R b s) : b.sliceOk b.wi b.cap := by
  obtain ⟨i0, i1, i2, _, i4, _⟩ := idx_R hR
  exact ⟨by lia, i4, Int.le_refl _⟩

theorem R_cap (hR : R b s) (c : Int) (h5 : b.wi ≤ c) (h6 : c ≤ Go.I64MAX) :
    R { b with cap := c } { s with cap := c } := by
  obtain ⟨h1, h2, h3, h4, _, _, _, h8⟩ := hR
  exact ⟨h1, h2, h3, h4, h5, h6, rfl, h8⟩

theorem R_push (hR : R b s) (X : List UInt8) {n : Int} (hn : n = X.length) (h5 : b.wi + n ≤ b.cap) :
    R { b with wi := b.wi + n, data := (b.data ++ X).take (b.wi + n).toNat } { s with pending := s.pending ++ X } := by
  obtain ⟨h1, h2, h3, h4, _, h6, h7, h8⟩ := hR
  subst hn
  have hw : b.wi + X.length = ((s.saved ++ s.readable ++ (s.pending ++ X)).length : Int) := by
    rw [h3]; simp only [List.length_append, Int.natCast_add, Int.add_assoc]
  refine ⟨h1, h2, ?_, ?_, h5, h6, h7, h8⟩
  · show b.wi + X.length = (s.saved.length : Int) + s.readable.length + (s.pending ++ X).length
    rw [List.length_append]; lia
  · show (b.data ++ X).take (b.wi + X.length).toNat = _
    rw [hw, Int.toNat_natCast, h4, List.append_assoc _ s.pending, List.take_of_length_le (Nat.le_refl _)]

theorem R_pop (hR : R b s) (m : Nat) (hm : m ≤ s.pending.length) :
    R { b with wi := b.wi - m, data := b.data.take (b.wi - m).toNat }
      { s with pending := s.pending.take (s.pending.length - m) } := by
  obtain ⟨h1, h2, h3, h4, h5, h6, h7, h8⟩ := hR
  have e : (b.wi - m).toNat = (s.saved ++ s.readable).length + (s.pending.length - m) := by
    rw [List.length_append]; lia
  refine ⟨h1, h2, ?_, ?_, ?_, h6, h7, h8⟩
  · show b.wi - m = (s.saved.length : Int) + s.readable.length + (s.pending.take (s.pending.length - m)).length
    rw [List.length_take]; lia
  · show b.data.take (b.wi - m).toNat = _
    rw [h4, e, List.take_length_add_append]
  · show b.wi - m ≤ b.cap
    lia

end Sonic.Props.C09
