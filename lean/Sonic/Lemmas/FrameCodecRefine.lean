/-
Refinement: every step of the CodecConn model is accepted by the frame-stream monitor
(`Sonic.Spec.FrameCodec.step`) and preserves the coupling between the two states.
-/
import Sonic.Lemmas.FrameCodecRead
import Sonic.Lemmas.FrameCodecWrite

namespace Sonic.Lemmas.FrameCodec
open Sonic.Spec.FrameCodec Sonic.Model.FrameCodec

/-- Reading half: the monitor's unparsed input is exactly what the model still holds. -/
structure RR (limit : Nat) (c : Conn) (s : S) : Prop where
  lim : s.limit = limit
  inv : RInv limit c
  inb : s.inb = unparsed c
  eof : s.eof = c.tr.eof
  rpend : s.rpend = c.rpend
  cap : s.cap = c.src.cap
  rej : s.rejected = true → front limit (unparsed c) = .tooBig

/-- Writing half: what the monitor says is owed to the peer is exactly what the destination buffer
(or the pending asynchronous write) still holds. -/
structure RW (c : Conn) (s : S) : Prop where
  ri : c.dst.ri = c.dst.data.length
  cap : c.dst.data.length ≤ c.dst.cap
  idle : c.wpend = none → s.wpend = none ∧ s.owed = c.dst.data
  busy : ∀ pw, c.wpend = some pw →
    s.wpend = some pw.buf.length ∧ pw.buf = c.dst.data ∧ pw.done ≤ pw.buf.length ∧ s.owed = pw.buf.drop pw.done

theorem RW_of_sameW {c c' : Conn} {s s' : S} (h : RW c s) (hs : SameW c c') (ho : s'.owed = s.owed)
    (hw : s'.wpend = s.wpend) : RW c' s' := by
  obtain ⟨a1, a2, _, _, _⟩ := hs
  refine ⟨by rw [a1]; exact h.ri, by rw [a1]; exact h.cap, ?_, ?_⟩
  · intro hn; rw [a2] at hn; rw [ho, hw, a1]; exact h.idle hn
  · intro pw hp; rw [a2] at hp; rw [ho, hw, a1]; exact h.busy pw hp

def SameRS (s s' : S) : Prop :=
  s'.limit = s.limit ∧ s'.inb = s.inb ∧ s'.eof = s.eof ∧ s'.rpend = s.rpend ∧ s'.cap = s.cap ∧ s'.rejected = s.rejected

theorem SameRS.refl (s : S) : SameRS s s := ⟨rfl, rfl, rfl, rfl, rfl, rfl⟩

theorem RR_of_sameRS {limit : Nat} {c c' : Conn} {s s' : S} (h : RR limit c s) (hc : SameR c c') (hs : SameRS s s') :
    RR limit c' s' := by
  obtain ⟨a1, a2, a3, a4, a5⟩ := hc
  obtain ⟨e1, e2, e3, e4, e5, e6⟩ := hs
  have hu : unparsed c' = unparsed c := by simp only [unparsed, a1, a2, a3]
  refine ⟨e1.trans h.lim, ⟨?_, ?_, ?_⟩, ?_, ?_, ?_, ?_, ?_⟩
  · rw [a1, a2]; exact h.inv.src
  · rw [a3]; exact h.inv.chunks
  · rw [a1, a2, a5]; exact h.inv.pend
  · rw [e2, hu]; exact h.inb
  · rw [e3, a4]; exact h.eof
  · rw [e4, a5]; exact h.rpend
  · rw [e5, a1]; exact h.cap
  · rw [e6, hu]; exact h.rej

theorem readDone_refines {limit : Nat} {async : Bool} {c c' : Conn} {s : S} {st : RStat}
    (hR : RR limit c s) (hout : ROut limit async c c' st) (hnp : async = false → c.rpend = false) :
    ∃ s', readDone s async (robs c' st) = some s' ∧ RR limit c' s' ∧ s'.owed = s.owed ∧ s'.wpend = s.wpend ∧
      st ≠ .busy ∧ st ≠ .none := by
  have hlim := hR.lim
  have hinb := hR.inb
  have heof : s.eof = c'.tr.eof := hR.eof.trans hout.same.eof.symm
  -- nothing has been rejected unless the prefix at the front is over the limit
  have hrej : front limit (unparsed c) ≠ .tooBig → s.rejected = false := fun hne => by
    cases hr : s.rejected
    · rfl
    · exact absurd (hR.rej hr) hne
  cases hf : front limit (unparsed c) with
  | item p rest =>
    obtain ⟨h1, h2, h3⟩ := hout.item p rest hf
    subst h1
    have hrej := hrej (by rw [hf]; nofun)
    refine ⟨{ s with inb := rest, rpend := false, cap := c'.src.cap }, ?_,
      ⟨hlim, hout.inv, h2.symm, heof, h3.symm, rfl, fun hh => ?_⟩, rfl, rfl, nofun, nofun⟩
    · simp only [readDone, robs, hlim, hinb, hf, hrej]
      simp
    · rw [hrej] at hh; cases hh
  | tooBig =>
    obtain ⟨h1, h2, h3, h4⟩ := hout.big hf
    subst h1
    refine ⟨{ s with rejected := true, rpend := false }, ?_,
      ⟨hlim, hout.inv, hinb.trans h2.symm, heof, h4.symm, hR.cap.trans h3.symm, fun _ => by rw [h2]; exact hf⟩,
      rfl, rfl, nofun, nofun⟩
    simp only [readDone, robs, hlim, hinb, hf, hR.cap, h3]
    simp
  | incomplete =>
    obtain ⟨h1, h2, h3⟩ := hout.inc hf
    have hrej := hrej (by rw [hf]; nofun)
    have hst : Starved s := Or.inr (by rw [hlim, hinb]; exact hf)
    have hinb' : s.inb = unparsed c' := hinb.trans h1.symm
    have hrej' : s.rejected = true → front limit (unparsed c') = .tooBig := fun hh => by
      rw [hrej] at hh; cases hh
    cases he : c.tr.eof
    · rw [he] at h3
      cases async
      · obtain ⟨h4, h5⟩ := h3
        subst h4
        refine ⟨{ s with cap := c'.src.cap }, ?_,
          ⟨hlim, hout.inv, hinb', heof, (hR.rpend.trans (hnp rfl)).trans h5.symm, rfl, hrej'⟩, rfl, rfl, nofun, nofun⟩
        simp only [readDone, robs]
        rw [if_pos ⟨trivial, hst⟩]
      · obtain ⟨h4, h5⟩ := h3
        subst h4
        refine ⟨{ s with rpend := true, cap := c'.src.cap }, ?_,
          ⟨hlim, hout.inv, hinb', heof, h5.symm, rfl, hrej'⟩, rfl, rfl, nofun, nofun⟩
        simp only [readDone, robs]
        rw [if_pos ⟨trivial, hst⟩]
    · rw [he] at h3
      obtain ⟨h4, h5⟩ := h3
      subst h4
      refine ⟨{ s with rpend := false, cap := c'.src.cap }, ?_,
        ⟨hlim, hout.inv, hinb', heof, h5.symm, rfl, hrej'⟩, rfl, rfl, nofun, nofun⟩
      simp only [readDone, robs]
      rw [if_pos ⟨hR.eof.trans he, hst⟩]

theorem take_isPrefixOf (l : Bytes) (n : Nat) : (l.take n).isPrefixOf l = true :=
  List.isPrefixOf_iff_prefix.mpr (List.take_prefix n l)

theorem self_isPrefixOf (l : Bytes) : l.isPrefixOf l = true :=
  List.isPrefixOf_iff_prefix.mpr (List.prefix_refl l)

theorem onPumpWrite_refines (c : Conn) (s : S) (hW : RW c s) :
    ∃ s', onPumpWrite s (pumpWrite c).2 = some s' ∧ RW (pumpWrite c).1 s' ∧ SameR c (pumpWrite c).1 ∧ SameRS s s' := by
  cases hw : c.wpend with
  | none =>
    obtain ⟨i1, _⟩ := hW.idle hw
    have hp : pumpWrite c = (c, wobs c .none 0 .nil []) := by simp only [pumpWrite, hw]
    rw [hp]
    refine ⟨s, ?_, hW, SameR.refl c, SameRS.refl s⟩
    simp only [onPumpWrite, wobs, i1, if_true]
  | some pw =>
    obtain ⟨b1, b2, b3, b4⟩ := hW.busy pw hw
    obtain ⟨hsame, hcase⟩ := pumpWrite_spec c pw hw b2 hW.ri b3
    rcases hcase with ⟨ho, hd, hr, hwp⟩ | ⟨d', hd1, hd2, ho, hdst, hwp⟩
    · rw [ho]
      refine ⟨{ s with owed := [], wpend := none }, ?_, ⟨by rw [hr, hd]; rfl, by rw [hd]; exact Nat.zero_le _, fun _ => ⟨rfl, hd.symm⟩, fun pw' hp => by rw [hwp] at hp; cases hp⟩, hsame,
        SameRS.refl s⟩
      have hl : pw.done + (pw.buf.length - pw.done) = pw.buf.length := Nat.add_sub_of_le b3
      simp only [onPumpWrite, b1, writeDone, b4, self_isPrefixOf, List.length_drop, List.drop_drop, hl, List.drop_length,
        reduceCtorEq, or_false, and_self, imp_self, if_true]
    · rw [ho]
      have hlen : (pw.buf.drop pw.done).length = pw.buf.length - pw.done := List.length_drop
      have htl : ((pw.buf.drop pw.done).take (d' - pw.done)).length = d' - pw.done := List.length_take_of_le
        (by rw [hlen]; exact Nat.sub_le_sub_right (Nat.le_of_lt hd2) _)
      refine ⟨{ s with owed := pw.buf.drop d' }, ?_, ⟨by rw [hdst]; exact hW.ri, by rw [hdst]; exact hW.cap, (fun hn => by rw [hwp] at hn; cases hn), ?_⟩, hsame,
        SameRS.refl s⟩
      · simp only [onPumpWrite, b1, b4, take_isPrefixOf, htl, List.drop_drop]
        have : pw.done + (d' - pw.done) = d' := Nat.add_sub_of_le hd1
        simp only [this, if_true]
      · intro pw' hp
        rw [hwp] at hp
        injection hp with hp
        subst hp
        exact ⟨b1, by rw [hdst]; exact b2, Nat.le_of_lt hd2, rfl⟩

theorem writeNext_refines (limit slack : Nat) (c : Conn) (s : S) (p : Bytes) (hW : RW c s) (hlim : s.limit = limit) :
    ∃ s', Spec.FrameCodec.step s (.write p) (.w (writeNext limit slack c p).2) = some s' ∧ RW (writeNext limit slack c p).1 s' ∧
      SameR c (writeNext limit slack c p).1 ∧ SameRS s s' := by
  cases hw : c.wpend with
  | some pw =>
    obtain ⟨b1, _, _, _⟩ := hW.busy pw hw
    rw [writeNext_busy limit slack c p hw]
    exact ⟨s, by simp [Spec.FrameCodec.step, wobs, b1], hW, SameR.refl c, SameRS.refl s⟩
  | none =>
    obtain ⟨i1, i2⟩ := hW.idle hw
    by_cases hbig : p.length > limit
    · rw [writeNext_big limit slack c p hw hbig]
      exact ⟨s, by simp [Spec.FrameCodec.step, wobs, i1, hlim, hbig], hW, SameR.refl c, SameRS.refl s⟩
    · obtain ⟨l2, l3, l4⟩ := writeLoop_spec c.tr.plan (c.dst.data ++ frame p) 0
      generalize hr : writeNext limit slack c p = r
      generalize ho : writeLoop c.tr.plan (c.dst.data ++ frame p) 0 = o at *
      obtain ⟨hsame, hwp, _, hdata, hri, hcap, hobs⟩ := writeNext_idle limit slack c p hw hW.ri hW.cap hbig hr ho
      obtain ⟨w, e, plan'⟩ := o
      simp only at l2 l3 l4 hdata hobs
      have htl : ((c.dst.data ++ frame p).take w).length = w := List.length_take_of_le (by rw [Nat.zero_add] at l2; exact l2)
      refine ⟨{ s with owed := (c.dst.data ++ frame p).drop w, wpend := none }, ?_,
        ⟨hri, hcap, fun _ => ⟨rfl, hdata.symm⟩, fun pw hp => (by rw [hwp] at hp; cases hp)⟩, hsame, SameRS.refl s⟩
      simp only [hobs, Spec.FrameCodec.step, i1, hlim, i2, Option.isSome_none, Bool.false_eq_true, if_false, hbig,
        writeDone, take_isPrefixOf, htl, true_and]
      rw [if_pos]
      refine ⟨l3, fun h => ?_⟩
      -- a nil error means the loop took everything
      have hw' : w = (c.dst.data ++ frame p).length := by rw [l4 h, Nat.zero_add]
      subst hw'
      simp only [List.take_length, Nat.sub_self, and_self]

/-- With no write pending and a payload within the limit, the monitor treats an `AsyncWriteNext` that completed
without error, or stays pending, as the enqueueing of the frame followed by a `pump` of the write side. -/
theorem step_awrite_eq_onPumpWrite (s : S) (p : Bytes) (o : WObs) (hw : s.wpend = none) (hp : ¬ p.length > s.limit)
    (ho : (o.stat = .done ∧ o.err = .nil) ∨ o.stat = .pending) :
    Spec.FrameCodec.step s (.awrite p) (.w o) =
      onPumpWrite { s with owed := s.owed ++ frame p, wpend := some (s.owed ++ frame p).length } o := by
  rcases ho with ⟨h1, h2⟩ | h1
  · simp only [Spec.FrameCodec.step, onPumpWrite, h1, h2, hw, hp, Option.isSome_none, Bool.false_eq_true, if_false,
      if_true, writeDone]
  · simp only [Spec.FrameCodec.step, onPumpWrite, h1, hw, hp, Option.isSome_none, Bool.false_eq_true, or_self, if_false]

theorem asyncWriteNext_refines (limit slack : Nat) (c : Conn) (s : S) (p : Bytes) (hW : RW c s) (hlim : s.limit = limit) :
    ∃ s', Spec.FrameCodec.step s (.awrite p) (.w (asyncWriteNext limit slack c p).2) = some s' ∧
      RW (asyncWriteNext limit slack c p).1 s' ∧ SameR c (asyncWriteNext limit slack c p).1 ∧ SameRS s s' := by
  cases hw : c.wpend with
  | some pw =>
    obtain ⟨b1, _, _, _⟩ := hW.busy pw hw
    rw [asyncWriteNext_busy limit slack c p hw]
    exact ⟨s, by simp [Spec.FrameCodec.step, wobs, b1], hW, SameR.refl c, SameRS.refl s⟩
  | none =>
    obtain ⟨i1, i2⟩ := hW.idle hw
    by_cases hbig : p.length > limit
    · rw [asyncWriteNext_big limit slack c p hw hbig]
      exact ⟨s, by simp [Spec.FrameCodec.step, wobs, i1, hlim, hbig], hW, SameR.refl c, SameRS.refl s⟩
    · obtain ⟨c1, hsame, hdata, hri, hcap, hwp, e⟩ := asyncWriteNext_idle limit slack c p hw hW.ri hW.cap hbig
      -- the frame is enqueued on both sides …
      have hW1 : RW c1 { s with owed := s.owed ++ frame p, wpend := some (s.owed ++ frame p).length } := by
        refine ⟨hri, hcap, fun hn => (by rw [hwp] at hn; cases hn), fun pw hp => ?_⟩
        rw [hwp] at hp; injection hp with hp; subst hp
        exact ⟨by rw [i2], hdata.symm, Nat.zero_le _, by rw [i2]; rfl⟩
      have hs1 : SameRS s { s with owed := s.owed ++ frame p, wpend := some (s.owed ++ frame p).length } :=
        SameRS.refl s
      rw [e]
      by_cases hdf : c.tr.deferW = true
      · rw [if_pos hdf]
        refine ⟨_, ?_, hW1, hsame, hs1⟩
        simp [Spec.FrameCodec.step, wobs, i1, hlim, hbig]
      · -- … and the transport starts on it as a `pump` would
        rw [if_neg hdf]
        obtain ⟨s', g1, g2, g3, g4⟩ := onPumpWrite_refines c1 _ hW1
        refine ⟨s', ?_, g2, hsame.trans g3, g4⟩
        rw [step_awrite_eq_onPumpWrite s p _ i1 (by rw [hlim]; exact hbig), g1]
        obtain ⟨_, hcase⟩ := pumpWrite_spec c1 _ hwp hdata.symm hri (Nat.zero_le _)
        rcases hcase with ⟨ho, _⟩ | ⟨d', _, _, ho, _⟩
        · rw [ho]; exact Or.inl ⟨rfl, rfl⟩
        · rw [ho]; exact Or.inr rfl

def R (limit : Nat) (c : Conn) (s : S) : Prop := RR limit c s ∧ RW c s

theorem R_init (limit : Nat) : R limit Conn.new (init limit initialCap) := by
  refine ⟨⟨rfl, ⟨srcInv_new, ?_, ?_⟩, rfl, rfl, rfl, rfl, ?_⟩, ⟨rfl, ?_, ?_, ?_⟩⟩
  · intro ch h; cases h
  · intro h; cases h
  · intro h; cases h
  · simp [Conn.new, BB.new]
  · intro _; exact ⟨rfl, rfl⟩
  · intro pw h; cases h

theorem step_feed (limit : Nat) (c : Conn) (s : S) (b : Bytes) (hR : R limit c s) :
    ∃ s', Spec.FrameCodec.step s (.feed b) (Model.FrameCodec.step limit c (.feed b) []).2 = some s' ∧
      R limit (Model.FrameCodec.step limit c (.feed b) []).1 s' := by
  obtain ⟨hr, hw⟩ := hR
  obtain ⟨hinv, hun⟩ := feed_inv limit c b hr.inv
  obtain ⟨hfe, hfp, hfd⟩ := feed_same c.tr b
  refine ⟨{ s with inb := s.inb ++ b }, rfl,
    ⟨hr.lim, hinv, ?_, hr.eof.trans hfe.symm, hr.rpend, hr.cap, fun hh => ?_⟩,
    RW_of_sameW hw ⟨rfl, rfl, hfp, hfe, hfd⟩ rfl rfl⟩
  · exact (congrArg (· ++ b) hr.inb).trans hun.symm
  · exact hun ▸ front_tooBig_append b (hr.rej hh)

theorem step_read (limit : Nat) (async : Bool) (c : Conn) (s : S) (env : List Nat) (hR : R limit c s) :
    ∃ s', (if (readNext limit async env c).2.stat = .busy then (if s.rpend then some s else none)
           else if s.rpend then none else readDone s async (readNext limit async env c).2) = some s' ∧
      R limit (readNext limit async env c).1 s' := by
  obtain ⟨hr, hw⟩ := hR
  cases hp : c.rpend with
  | true =>
    have e : readNext limit async env c = (c, robs c .busy) := by simp [readNext, hp]
    rw [e]
    exact ⟨s, by simp [robs, hr.rpend, hp], hr, hw⟩
  | false =>
    obtain ⟨c', st, e, hout⟩ := readNext_spec limit async env c hr.inv hp
    obtain ⟨s', h1, h2, h3, h4, h5, _⟩ := readDone_refines hr hout (fun _ => hp)
    rw [e]
    refine ⟨s', ?_, h2, RW_of_sameW hw hout.same h3 h4⟩
    simp only [robs, h5, if_false, hr.rpend, hp, Bool.false_eq_true]
    exact h1

theorem step_pump (limit : Nat) (c : Conn) (s : S) (env : List Nat) (hR : R limit c s) :
    ∃ s', ((onPumpWrite s (pumpWrite c).2).bind (onPumpRead · (pumpRead limit env (pumpWrite c).1).2)) = some s' ∧
      R limit (pumpRead limit env (pumpWrite c).1).1 s' := by
  obtain ⟨hr, hw⟩ := hR
  obtain ⟨s1, g1, g2, g3, g4⟩ := onPumpWrite_refines c s hw
  have hr1 : RR limit (pumpWrite c).1 s1 := RR_of_sameRS hr g3 g4
  rw [g1]
  simp only [Option.bind_some]
  generalize (pumpWrite c).1 = c1 at *
  cases hp : c1.rpend with
  | false =>
    have e : pumpRead limit env c1 = (c1, robs c1 .none) := by simp [pumpRead, hp]
    rw [e]
    exact ⟨s1, by simp [onPumpRead, robs, hr1.rpend, hp], hr1, g2⟩
  | true =>
    obtain ⟨c', st, e, hout⟩ := pumpRead_spec limit env c1 hr1.inv hp
    obtain ⟨s', h1, h2, h3, h4, _, h6⟩ := readDone_refines hr1 hout (fun h => by cases h)
    rw [e]
    refine ⟨s', ?_, h2, RW_of_sameW g2 hout.same h3 h4⟩
    have : onPumpRead s1 (robs c' st) = readDone s1 true (robs c' st) := by
      unfold onPumpRead
      split
      · rename_i e; exact absurd e h6
      · rw [if_pos (hr1.rpend.trans hp)]
    rw [this]; exact h1

/-- One step of the model is accepted by the monitor and preserves the coupling, whatever capacities
the runtime chooses (`env`). -/
theorem step_refines (limit : Nat) (c : Conn) (s : S) (op : Op) (env : List Nat) (hR : R limit c s) :
    ∃ s', Spec.FrameCodec.step s op (Model.FrameCodec.step limit c op env).2 = some s' ∧
      R limit (Model.FrameCodec.step limit c op env).1 s' := by
  cases op with
  | feed b => exact step_feed limit c s b hR
  | eof =>
    obtain ⟨hr, hw⟩ := hR
    exact ⟨{ s with eof := true }, rfl,
      ⟨hr.lim, ⟨hr.inv.src, hr.inv.chunks, hr.inv.pend⟩, hr.inb, rfl, hr.rpend, hr.cap, hr.rej⟩,
      ⟨hw.ri, hw.cap, hw.idle, hw.busy⟩⟩
  | plan ks =>
    obtain ⟨hr, hw⟩ := hR
    exact ⟨s, rfl, RR_of_sameRS (c' := { c with tr := { c.tr with plan := c.tr.plan ++ ks } }) hr ⟨rfl, rfl, rfl, rfl, rfl⟩ (SameRS.refl s),
      ⟨hw.ri, hw.cap, hw.idle, hw.busy⟩⟩
  | defer on =>
    obtain ⟨hr, hw⟩ := hR
    exact ⟨s, rfl, RR_of_sameRS (c' := { c with tr := { c.tr with deferW := on } }) hr ⟨rfl, rfl, rfl, rfl, rfl⟩ (SameRS.refl s),
      ⟨hw.ri, hw.cap, hw.idle, hw.busy⟩⟩
  | read => exact step_read limit false c s env hR
  | aread => exact step_read limit true c s env hR
  | write p =>
    obtain ⟨hr, hw⟩ := hR
    obtain ⟨s', h1, h2, h3, h4⟩ := writeNext_refines limit (env.headD 0) c s p hw hr.lim
    exact ⟨s', h1, RR_of_sameRS hr h3 h4, h2⟩
  | awrite p =>
    obtain ⟨hr, hw⟩ := hR
    obtain ⟨s', h1, h2, h3, h4⟩ := asyncWriteNext_refines limit (env.headD 0) c s p hw hr.lim
    exact ⟨s', h1, RR_of_sameRS hr h3 h4, h2⟩
  | pump => exact step_pump limit c s env hR

end Sonic.Lemmas.FrameCodec
