/-
C06, the reader: `CodecConn.ReadNext` over the decoder model of C07.

For every codec state that satisfies the C07 invariant, every queue of transport segments and every capacity answer of
the runtime, the read loop (decode; on "need more" one transport read; decode again) returns the first frame of the
bytes that are still ahead (`rem`: unconsumed buffer contents followed by the queued segments) — whatever the
segmentation — and leaves exactly the bytes behind that frame; when no complete frame is ahead it drains the transport
and reports that nothing is there.  Built on the decoder's case lemmas (Lemmas/WsDecode.lean) and prefix monotonicity of
the RFC 6455 parser (Lemmas/WsParse.lean).
-/
import Sonic.Model.WsMsg
import Sonic.Lemmas.WsDecode

namespace Sonic.Lemmas.WsMsg
open Sonic.Model.WsBuf Sonic.Model.WsFrame Sonic.Spec.WsFrame Sonic.Model.WsMsg
open Sonic.Model.WsStream (Next)
open Sonic.Spec.WsStream (Err)

theorem lift_ok {α : Type} (a : α) : lift (.ok a : Sonic.Model.WsBuf.M α) = .ok a := rfl
theorem lift_err {α : Type} (p : Panic) : lift (.error p : Sonic.Model.WsBuf.M α) = .error (.buf p) := rfl

def rem (w : W) : List UInt8 := w.c.unconsumed ++ w.chunks.flatten

/-- `readFrom_eq` (Lemmas/WsDecode.lean) with the count, which the read loop needs to see that it makes progress. -/
theorem readFrom_min {b : Buf} (avail : List UInt8) (hI : b.Inv) :
    ∃ B, b.ReadFrom avail = .ok (B, min (b.cap - b.wi).toNat avail.length) ∧ B.Inv ∧
      B.data = b.data ++ avail.take (min (b.cap - b.wi).toNat avail.length) ∧ B.ri = b.ri ∧ B.cap = b.cap := by
  obtain ⟨hsi, h1, h2, h3, h4, h5⟩ := hI
  unfold Buf.ReadFrom Buf.sliceLen
  rw [if_pos (by omega)]
  simp only [ebind_ok, epure]
  refine ⟨_, rfl, ⟨hsi, h1, by dsimp only; omega, by dsimp only; omega, h4, ?_⟩, rfl, rfl, rfl⟩
  dsimp only
  rw [List.length_append, List.length_take]; omega

/-- One transport read loses no byte, and the loop bound decreases because a byte was taken or an empty segment removed. -/
theorem leftover {r : Nat} (hr : 0 < r) (ch : List UInt8) (rest : List (List UInt8)) {n : Nat} (hn : min r ch.length = n) :
    ch.take n ++ (if n < ch.length then ch.drop n :: rest else rest).flatten = (ch :: rest).flatten ∧
    ((if n < ch.length then ch.drop n :: rest else rest).map List.length).sum +
        (if n < ch.length then ch.drop n :: rest else rest).length <
      ((ch :: rest).map List.length).sum + (ch :: rest).length := by
  by_cases hlt : n < ch.length
  · rw [if_pos hlt]
    constructor
    · rw [List.flatten_cons, List.flatten_cons, ← List.append_assoc, List.take_append_drop]
    · simp only [List.map_cons, List.sum_cons, List.length_cons, List.length_drop]; omega
  · rw [if_neg hlt]
    constructor
    · rw [List.take_of_length_le (by omega), List.flatten_cons]
    · simp only [List.map_cons, List.sum_cons, List.length_cons]; omega

theorem transportRead_step (k : W → X (W × Next)) (w : W) (ch : List UInt8) (rest : List (List UInt8))
    (hI : w.c.Inv) (hr : w.c.reset = false) (hroom : 0 < w.c.buf.cap - w.c.buf.wi) (hch : w.chunks = ch :: rest) :
    ∃ w2, transportRead k w = k w2 ∧ w2.c.Inv ∧ w2.c.max = w.c.max ∧ w2.m = w.m ∧ rem w2 = rem w ∧
      readFuel w2 < readFuel w := by
  obtain ⟨hb, hcap, hmax, _⟩ := hI
  obtain ⟨B, hB, bi, bd, bri, bc⟩ := readFrom_min ch hb
  generalize hn : min (w.c.buf.cap - w.c.buf.wi).toNat ch.length = n at hB bd
  obtain ⟨hsame, hless⟩ := leftover (Int.pos_iff_toNat_pos.1 hroom) ch rest hn
  unfold transportRead
  simp only [hch, hB, lift_ok, ebind_ok]
  refine ⟨_, rfl, ⟨bi, bc.symm ▸ hcap, hmax, fun h => by dsimp only at h; rw [hr] at h; cases h⟩, rfl, rfl, ?_, ?_⟩
  · unfold rem
    rw [Codec.unconsumed_of_not_reset hr, Codec.unconsumed_of_not_reset (c := { w.c with buf := B }) hr]
    dsimp only
    rw [bd, hch, List.append_assoc, hsame]
  · unfold readFuel
    dsimp only
    rw [hch]
    exact Nat.succ_lt_succ hless

theorem readNextFuel_needMore (fuel : Nat) (w : W) (hI : w.c.Inv) (hpu : parse w.c.max w.c.unconsumed = .needMore) :
    readNextFuel (fuel + 1) w = .error (.buf .env) ∨
    (w.chunks = [] ∧ ∃ w', readNextFuel (fuel + 1) w = .ok (w', .err .nodata) ∧ w'.c.Inv ∧ w'.c.max = w.c.max ∧
      w'.m = w.m ∧ rem w' = rem w ∧ w'.chunks = []) ∨
    ∃ w2, readNextFuel (fuel + 1) w = readNextFuel fuel w2 ∧ w2.c.Inv ∧ w2.c.max = w.c.max ∧ w2.m = w.m ∧
      rem w2 = rem w ∧ readFuel w2 < readFuel w := by
  rw [readNextFuel]
  rcases decode_needMore (capFor w.c w.rooms) hI hpu with he | ⟨c', g, hD, ci, cr, cd, cm, cpos, _⟩
  · left; rw [he]; rfl
  right
  simp only [hD, lift_ok, ebind_ok, onDecoded]
  have hun : c'.unconsumed = w.c.unconsumed := (Codec.unconsumed_of_not_reset cr).trans cd
  have hrem : rem ({ w with c := c' } : W) = rem w := by unfold rem; dsimp only; rw [hun]
  by_cases hch : w.chunks = []
  · refine .inl ⟨hch, ?_⟩
    unfold transportRead
    simp only [hch, epure]
    refine ⟨_, rfl, ci, cm, rfl, ?_, rfl⟩
    unfold rem; dsimp only; rw [hun, hch]
  · right
    obtain ⟨ch, rest, hch⟩ := List.exists_cons_of_ne_nil hch
    obtain ⟨w2, hk, i2, m2, mm2, r2, f2⟩ :=
      transportRead_step (readNextFuel fuel) { w with c := c' } ch rest ci cr cpos hch
    exact ⟨w2, hk, i2, m2.trans cm, mm2, r2.trans hrem, f2⟩

/-- **A frame is ahead**: the loop returns it, whatever the segmentation and the runtime's capacity answers. -/
theorem readNextFuel_frame : ∀ (fuel : Nat) (w : W) (f : Frame) (n : Nat), w.c.Inv →
    parse w.c.max (rem w) = .frame f n → readFuel w ≤ fuel →
    readNextFuel fuel w = .error (.buf .env) ∨
    ∃ w', readNextFuel fuel w = .ok (w', .frame (toIn f)) ∧ w'.c.Inv ∧ w'.c.max = w.c.max ∧ w'.m = w.m ∧
      rem w' = (rem w).drop n := by
  intro fuel
  induction fuel with
  | zero => intro w f n _ _ hf; unfold readFuel at hf; omega
  | succ fuel ih =>
    intro w f n hI hp hfuel
    cases hpu : parse w.c.max w.c.unconsumed with
    | frame g k =>
      have := parse_append_frame (t := w.chunks.flatten) hpu
      unfold rem at hp
      rw [hp] at this
      injection this with hg hk
      subst hg; subst hk
      obtain ⟨c', hD, ci, cr, cf, cd, cm, cc⟩ := decode_frame (capFor w.c w.rooms) hI hpu
      obtain ⟨_, _, hle, _, _⟩ := parse_frame hpu
      right
      unfold readNextFuel
      simp only [hD, lift_ok, ebind_ok, onDecoded, view_take hpu, epure]
      refine ⟨_, rfl, ci, cm, rfl, ?_⟩
      show c'.unconsumed ++ w.chunks.flatten = (w.c.unconsumed ++ w.chunks.flatten).drop n
      rw [Codec.unconsumed_of_reset cr cf, cd, List.drop_append_of_le_length hle]
    | tooBig =>
      have := parse_append_tooBig (t := w.chunks.flatten) hpu
      unfold rem at hp
      rw [hp] at this; cases this
    | needMore =>
      rcases readNextFuel_needMore fuel w hI hpu with he | ⟨hch, _⟩ | ⟨w2, hk, i2, m2, mm2, r2, f2⟩
      · exact .inl he
      · rw [rem, hch, List.flatten_nil, List.append_nil, hpu] at hp
        cases hp
      · rw [hk]
        rcases ih w2 f n i2 (by rw [m2, r2]; exact hp) (by omega) with he | ⟨w', hw', i', m', mm', r'⟩
        · exact .inl he
        · exact .inr ⟨w', hw', i', m'.trans m2, mm'.trans mm2, by rw [r', r2]⟩

/-- **Nothing complete is ahead**: the loop takes everything the transport holds into the buffer and reports that the
transport has no more data. -/
theorem readNextFuel_drained : ∀ (fuel : Nat) (w : W), w.c.Inv →
    parse w.c.max (rem w) = .needMore → readFuel w ≤ fuel →
    readNextFuel fuel w = .error (.buf .env) ∨
    ∃ w', readNextFuel fuel w = .ok (w', .err .nodata) ∧ w'.c.Inv ∧ w'.c.max = w.c.max ∧ w'.m = w.m ∧
      rem w' = rem w ∧ w'.chunks = [] := by
  intro fuel
  induction fuel with
  | zero => intro w _ _ hf; unfold readFuel at hf; omega
  | succ fuel ih =>
    intro w hI hp hfuel
    cases hpu : parse w.c.max w.c.unconsumed with
    | frame g k =>
      have := parse_append_frame (t := w.chunks.flatten) hpu
      unfold rem at hp
      rw [hp] at this; cases this
    | tooBig =>
      have := parse_append_tooBig (t := w.chunks.flatten) hpu
      unfold rem at hp
      rw [hp] at this; cases this
    | needMore =>
      rcases readNextFuel_needMore fuel w hI hpu with he | ⟨_, h⟩ | ⟨w2, hk, i2, m2, mm2, r2, f2⟩
      · exact .inl he
      · exact .inr h
      · rw [hk]
        rcases ih w2 i2 (by rw [m2, r2]; exact hp) (by omega) with he | ⟨w', hw', i', m', mm', r', c0⟩
        · exact .inl he
        · exact .inr ⟨w', hw', i', m'.trans m2, mm'.trans mm2, r'.trans r2, c0⟩

end Sonic.Lemmas.WsMsg
