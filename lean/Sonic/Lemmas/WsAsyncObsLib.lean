/-
Effects of the library code of the asynchronous WebSocket model on what an observer sees (for the refinement
`Props/C17.lean: C17_monitor_accepts_model`): the flush machinery (`asyncFlush`, `asyncFlushGo`, `flushDone`) changes
nothing an application or the peer observes except that it schedules completions (`Fl`), and it holds no callback it did
not hold before (`locs`: where the library holds callbacks, with the kind of call they belong to; that kinds agree with
the monitor's is `compat` in `WsAsyncObsRel.lean`).
-/
import Sonic.Lemmas.WsAsyncInv

namespace Sonic.Model.WsAsync

/-- The kind of call a held callback belongs to. `w`: the write side (AsyncWrite, AsyncWriteFrame, AsyncFlush,
AsyncClose); `f`: a frame read (AsyncNextFrame); `m`: a message read (AsyncNextMessage); `r`: a read of either kind,
where the task no longer says which (the entry of a read callback). -/
inductive LK where
  | w | f | m | r
  deriving DecidableEq, Repr

def LK.isRd : LK → Bool
  | .w => false
  | _ => true

def RKind.lk : RKind → LK
  | .frame => .f
  | .message .. => .m

def contK : Cont → List (CbId × LK)
  | .user cb => [(cb, .w)]
  | .readStart cb rk => [(cb, rk.lk)]
  | .discard => []

def taskK : Task → List (CbId × LK)
  | .invoke cb _ isRead => [(cb, if isRead then .r else .w)]
  | .resume cb rk _ => [(cb, rk.lk)]
  | .again cb rk => [(cb, rk.lk)]
  | _ => []

def wrK (s : St) : List (CbId × LK) := match s.wr with | some w => contK w.k | none => []
def rdK (s : St) : List (CbId × LK) := match s.rd with | some (cb, rk) => [(cb, rk.lk)] | none => []

/-- every callback the library holds, with the kind of call it belongs to (`owedList` with more detail) -/
def locs (s : St) : List (CbId × LK) := s.waiters.flatMap contK ++ wrK s ++ rdK s ++ s.stack.flatMap taskK

def eraseK (p : CbId × LK) : Ow := (p.1, p.2.isRd)

theorem contK_erase (k : Cont) : (contK k).map eraseK = contCbs k := by
  cases k with
  | user cb => rfl
  | readStart cb rk => cases rk <;> rfl
  | discard => rfl

theorem taskK_erase (t : Task) : (taskK t).map eraseK = taskCbs t := by
  cases t with
  | invoke cb r isRead => cases isRead <;> rfl
  | resume cb rk ok => cases rk <;> rfl
  | again cb rk => cases rk <;> rfl
  | _ => rfl

theorem flatMap_erase {α : Type} (l : List α) (f : α → List (CbId × LK)) (g : α → List Ow)
    (h : ∀ a, (f a).map eraseK = g a) : (l.flatMap f).map eraseK = l.flatMap g := by
  induction l with
  | nil => rfl
  | cons a r ih => simp only [List.flatMap_cons, List.map_append, h, ih]

theorem mem_locs {s : St} {p : CbId × LK} :
    p ∈ locs s ↔ p ∈ s.waiters.flatMap contK ∨ p ∈ wrK s ∨ p ∈ rdK s ∨ p ∈ s.stack.flatMap taskK := by
  simp only [locs, List.mem_append, or_assoc]

theorem locs_stack {s s' : St} {new : List Task} (hw : s'.waiters = s.waiters) (hwr : s'.wr = s.wr) (hrd : s'.rd = s.rd)
    (hst : s'.stack = new ++ s.stack) {p : CbId × LK} : p ∈ locs s' ↔ p ∈ new.flatMap taskK ∨ p ∈ locs s := by
  simp only [mem_locs, wrK, rdK, hw, hwr, hrd, hst, List.flatMap_append, List.mem_append]
  exact (or_congr_right (or_congr_right or_left_comm)).trans ((or_congr_right or_left_comm).trans or_left_comm)

theorem locs_cons {s : St} {t : Task} {rest : List Task} (hst : s.stack = t :: rest) {p : CbId × LK} :
    p ∈ locs s ↔ p ∈ taskK t ∨ p ∈ locs { s with stack := rest } := by
  rw [locs_stack (s := { s with stack := rest }) (s' := s) (new := [t]) rfl rfl rfl hst, List.flatMap_cons, List.flatMap_nil,
    List.append_nil]

theorem locs_push {s : St} {ts : List Task} {p : CbId × LK} : p ∈ locs (push s ts) ↔ p ∈ ts.flatMap taskK ∨ p ∈ locs s :=
  locs_stack (s := s) (s' := push s ts) rfl rfl rfl rfl

theorem locs_push_one {s : St} {t : Task} {p : CbId × LK} : p ∈ locs (push s [t]) ↔ p ∈ taskK t ∨ p ∈ locs s := by
  rw [locs_push, List.flatMap_cons, List.flatMap_nil, List.append_nil]

theorem locs_wr {s : St} {w : WSlot} (h : s.wr = some w) {p : CbId × LK} :
    p ∈ locs s ↔ p ∈ contK w.k ∨ p ∈ locs { s with wr := none } := by
  simp only [mem_locs, wrK, rdK, h, List.not_mem_nil, false_or]
  exact or_left_comm

theorem locs_rd {s : St} {cb : CbId} {rk : RKind} (h : s.rd = some (cb, rk)) {p : CbId × LK} :
    p ∈ locs s ↔ p = (cb, rk.lk) ∨ p ∈ locs { s with rd := none } := by
  simp only [mem_locs, wrK, rdK, h, List.not_mem_nil, false_or, List.mem_singleton]
  exact (or_congr_right or_left_comm).trans or_left_comm

theorem locs_of_wr_none {s : St} {p : CbId × LK} (hp : p ∈ locs { s with wr := none }) : p ∈ locs s := by
  rcases mem_locs.1 hp with h | h | h
  · exact mem_locs.2 (Or.inl h)
  · cases h
  · exact mem_locs.2 (Or.inr (Or.inr h))

theorem locs_of_rd_none {s : St} {p : CbId × LK} (hp : p ∈ locs { s with rd := none }) : p ∈ locs s := by
  rcases mem_locs.1 hp with h | h | h | h
  · exact mem_locs.2 (Or.inl h)
  · exact mem_locs.2 (Or.inr (Or.inl h))
  · cases h
  · exact mem_locs.2 (Or.inr (Or.inr (Or.inr h)))

theorem owed_eq_locs (s : St) : owedList s = (locs s).map eraseK := by
  simp only [owedList, locs, List.map_append, flatMap_erase _ _ _ contK_erase, flatMap_erase _ _ _ taskK_erase]
  congr 2
  · congr 1
    simp only [wrCbs, wrK]
    cases s.wr with
    | none => rfl
    | some w => exact (contK_erase w.k).symm
  · simp only [rdCbs, rdK]
    cases s.rd with
    | none => rfl
    | some p => obtain ⟨cb, rk⟩ := p; cases rk <;> rfl

/-- What the flush machinery leaves alone. -/
def vis (s : St) := (s.ws, s.submitted, s.started, s.log, s.readBusy, s.inbox, s.rx, s.wire, s.healthy, s.rd)

/-- tasks the flush machinery schedules: completions of write-side callbacks with the flush's result, and the
continuation of a read -/
def quietT (ok : Bool) : Task → Prop
  | .invoke _ r false => r = (if ok then .ok else .err)
  | .resume _ _ ok' => ok' = ok
  | _ => False

/-- Effect of flush code run for callback `k`. -/
structure Fl (ok : Bool) (s s' : St) (k : Cont) : Prop where
  vis : vis s' = vis s
  stack : ∃ new, s'.stack = new ++ s.stack ∧ ∀ t ∈ new, quietT ok t
  rdl : ∀ p ∈ locs s', p ∈ locs s ∨ p ∈ contK k

theorem contTask_quiet (k : Cont) (ok : Bool) : ∀ t ∈ contTask k ok, quietT ok t := by
  intro t ht
  cases k with
  | user cb => simp only [contTask, List.mem_singleton] at ht; subst ht; rfl
  | readStart cb rk => simp only [contTask, List.mem_singleton] at ht; subst ht; rfl
  | discard => simp [contTask] at ht

theorem contTask_K (k : Cont) (ok : Bool) : (contTask k ok).flatMap taskK = contK k := by
  cases k <;> simp [contTask, taskK, contK]

theorem flushDone_fl (s : St) (k : Cont) (ok : Bool) : Fl ok s (flushDone true s k ok) k := by
  refine ⟨rfl, ⟨contTask k ok ++ s.waiters.flatMap (contTask · ok), by simp [flushDone, push], ?_⟩, ?_⟩
  · intro t ht
    rcases List.mem_append.1 ht with h | h
    · exact contTask_quiet k ok t h
    · obtain ⟨k', _, hk'⟩ := List.mem_flatMap.1 h
      exact contTask_quiet k' ok t hk'
  · intro p hp
    simp only [flushDone, if_true, locs_push, List.flatMap_append, contTask_K, waiters_flatMap contTask_K, List.mem_append] at hp
    rcases hp with (h | h) | h
    · exact Or.inr h
    · exact Or.inl (mem_locs.2 (Or.inl h))
    · rcases mem_locs.1 h with h | h
      · cases h
      · exact Or.inl (mem_locs.2 (Or.inr h))

theorem asyncFlushGo_fl (s : St) (k : Cont) : Fl true s (asyncFlushGo true s k) k := by
  unfold asyncFlushGo
  split
  · exact flushDone_fl s k true
  · rename_i f rest hp
    obtain ⟨b, ov, e⟩ := startWrite_eq { s with pending := rest } f k
    rw [e]
    refine ⟨rfl, ⟨[], rfl, fun _ h => by cases h⟩, fun p hp => ?_⟩
    rcases (locs_wr rfl).1 hp with h | h
    · exact Or.inr h
    · exact Or.inl (locs_of_wr_none (s := s) h)

theorem asyncFlush_fl (s : St) (k : Cont) : Fl true s (asyncFlush true s k) k := by
  unfold asyncFlush
  simp only [if_true]
  split
  · refine ⟨rfl, ⟨[], rfl, fun _ h => by cases h⟩, ?_⟩
    intro p hp
    simp only [mem_locs, wrK, rdK, List.flatMap_append, List.mem_append, List.flatMap_cons, List.flatMap_nil,
      List.append_nil] at hp ⊢
    rcases hp with (h | h) | h
    · exact Or.inl (Or.inl h)
    · exact Or.inr h
    · exact Or.inl (Or.inr h)
  · exact { asyncFlushGo_fl { s with flushing := true } k with }

theorem asyncFlush_nopush (s : St) (k : Cont) (hp : s.pending ≠ []) : (asyncFlush true s k).stack = s.stack := by
  unfold asyncFlush
  simp only [if_true]
  split
  · rfl
  · unfold asyncFlushGo
    split
    · rename_i h; exact absurd h hp
    · rename_i f rest _
      obtain ⟨b, ov, e⟩ := startWrite_eq { s with flushing := true, pending := rest } f k
      rw [e]

theorem Fl.fields {ok : Bool} {s s' : St} {k : Cont} (h : Fl ok s s' k) :
    s'.ws = s.ws ∧ s'.submitted = s.submitted ∧ s'.started = s.started ∧ s'.log = s.log ∧ s'.readBusy = s.readBusy ∧
    s'.inbox = s.inbox ∧ s'.rx = s.rx ∧ s'.wire = s.wire ∧ s'.healthy = s.healthy ∧ s'.rd = s.rd := by
  have := h.vis
  simp only [Sonic.Model.WsAsync.vis, Prod.mk.injEq] at this
  exact this

theorem asyncFlush_submitted (s : St) (k : Cont) : (asyncFlush true s k).submitted = s.submitted :=
  (asyncFlush_fl s k).fields.2.1

end Sonic.Model.WsAsync
