/-
Refinement: the descriptor-table model's observable behaviour is accepted by the property monitor
`Sonic.Spec.Resources`, for every operation list (coupling: the monitor's set of open descriptors is the model's table).
-/
import Sonic.Lemmas.ResTable
import Sonic.Spec.Resources

namespace Sonic.Model.Resources
open Sonic.Spec.Resources (sortNat insertSorted)

theorem mem_insertSorted (a x : Nat) : ∀ l, x ∈ insertSorted a l ↔ x = a ∨ x ∈ l
  | [] => by simp [insertSorted]
  | b :: r => by
    unfold insertSorted
    split
    · simp
    · simp only [List.mem_cons, mem_insertSorted a x r]
      exact or_left_comm

theorem mem_sortNat (x : Nat) : ∀ l, x ∈ sortNat l ↔ x ∈ l
  | [] => by simp [sortNat]
  | a :: r => by
    have ih := mem_sortNat x r
    unfold sortNat at ih ⊢
    simp only [List.foldr_cons, mem_insertSorted, ih, List.mem_cons]

/-- What the harness observes of the model after an operation: all open descriptors, ascending. -/
def aliveOf (w : World) : List Nat := sortNat (w.table.map (·.1))

def specOp : Op → Sonic.Spec.Resources.Op
  | .new k _ => .new k ""
  | .close k => .close k

def obsOf (w' : World) : Op → Sonic.Spec.Resources.Obs
  | .new _ fds => .created fds (aliveOf w')
  | .close _ => .closed (aliveOf w')

def trace (w : World) : List Op → Option (List (Sonic.Spec.Resources.Op × Sonic.Spec.Resources.Obs))
  | [] => some []
  | op :: r => match step true w op with
    | none => none
    | some w' => (trace w' r).map ((specOp op, obsOf w' op) :: ·)

theorem step_refines (w w' : World) (s : Sonic.Spec.Resources.S) (op : Op) (hI : Inv w) (hR : s.open_ = w.table)
    (h : step true w op = some w') :
    ∃ s', Sonic.Spec.Resources.step s (specOp op) (obsOf w' op) = .ok s' ∧ s'.open_ = w'.table := by
  cases op with
  | new k fds =>
    obtain ⟨_, _, hfree, rfl⟩ := step_new_cases h
    have hfree : (fds.any fun fd => w.table.any (·.1 == fd)) = false := hfree
    simp only [specOp, obsOf, Sonic.Spec.Resources.step, hR, hfree, Bool.false_eq_true, if_false, aliveOf,
      Sonic.Spec.Resources.fdsOf]
    exact ⟨_, by simp, rfl⟩
  | close k =>
    -- the entries the monitor attributes to `k` are exactly the ones the model removes
    have hothers := step_close_table hI h
    simp only [specOp, obsOf, Sonic.Spec.Resources.step, hR, aliveOf, hothers]
    have h1 : ((w.table.filter (·.2 != k)).any fun e =>
        !(sortNat ((w.table.filter (·.2 != k)).map (·.1))).contains e.1) = false := by
      apply List.any_eq_false.2
      intro e he
      have : e.1 ∈ sortNat ((w.table.filter (·.2 != k)).map (·.1)) :=
        (mem_sortNat _ _).2 (List.mem_map.2 ⟨e, he, rfl⟩)
      simp [this]
    have h2 : ((w.table.filter (·.2 == k)).any fun e =>
        (sortNat ((w.table.filter (·.2 != k)).map (·.1))).contains e.1) = false := by
      apply List.any_eq_false.2
      intro e he
      obtain ⟨hem, hek⟩ := List.mem_filter.1 he
      intro hcon
      have hmem : e.1 ∈ sortNat ((w.table.filter (·.2 != k)).map (·.1)) := by simpa using hcon
      obtain ⟨e', he', hfst⟩ := List.mem_map.1 ((mem_sortNat _ _).1 hmem)
      obtain ⟨hem', hek'⟩ := List.mem_filter.1 he'
      have : e'.2 = e.2 := hI.func e.1 e'.2 e.2 (by rw [← hfst]; exact hem') hem
      simp only [bne_iff_ne, ne_eq] at hek'
      exact hek' (this.trans (by simpa using hek))
    simp only [h1, h2, Bool.false_eq_true, if_false]
    exact ⟨_, by simp, rfl⟩

theorem trace_accepted (ops : List Op) : ∀ (w : World) (s : Sonic.Spec.Resources.S) (tr), Inv w → s.open_ = w.table →
    trace w ops = some tr → Sonic.Spec.Resources.accepts s tr = true := by
  induction ops with
  | nil => intro w s tr _ _ h; simp only [trace] at h; cases h; rfl
  | cons op r ih =>
    intro w s tr hI hR h
    simp only [trace] at h
    cases hs : step true w op with
    | none => simp [hs] at h
    | some w' =>
      simp only [hs] at h
      cases ht : trace w' r with
      | none => simp [ht] at h
      | some tr' =>
        simp only [ht, Option.map_some] at h
        cases h
        obtain ⟨s', hs', hR'⟩ := step_refines w w' s op hI hR hs
        simp only [Sonic.Spec.Resources.accepts, hs']
        exact ih w' s' tr' (step_inv w w' op hI hs) hR' ht

end Sonic.Model.Resources
