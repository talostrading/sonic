/-
Invariant of the Post interleaving model, preserved by every step of every thread (`step_inv`); when a thread cannot move
(`posterStep_eq_none`, `step_loop_eq_none`), and that under the invariant a state in which none can is final (`stuck_of_inv`).
-/
import Sonic.Model.Post

namespace Sonic.Model.Post

def holdsP (p : Poster) : Prop := p.pc = .locked ∨ p.pc = .appended
/-- appended, but the eventfd write has not happened yet -/
def sigP (p : Poster) : Prop := p.pc = .appended ∨ p.pc = .unlocked

structure Inv (s : St) : Prop where
  /-- execution order = append order; every appended handler is in exactly one place -/
  fifo : s.executed ++ s.batch ++ s.posts = s.postedLog
  batchEmpty : (s.lpc = .waiting ∨ s.lpc = .draining ∨ s.lpc = .wantLock ∨ s.lpc = .swapping) → s.batch = []
  swapEmpty : s.lpc = .unlocking → s.posts = []
  mutexP : ∀ i, holdsP (s.posters i) ↔ s.holder = some (some i)
  mutexL : (s.lpc = .swapping ∨ s.lpc = .unlocking ∨ (s.lpc = .inHandler ∧ holdsP s.nest)) ↔ s.holder = some none
  nestIdle : s.lpc ≠ .inHandler → s.nest.pc = .idle
  /-- no lost wake-up -/
  wake : s.posts ≠ [] → s.counter > 0 ∨ (∃ i, sigP (s.posters i)) ∨ (s.lpc = .inHandler ∧ sigP s.nest)
            ∨ s.lpc = .wantLock ∨ s.lpc = .swapping
  pend : s.pending = s.posts.length + s.batch.length + (if s.lpc = .inHandler ∨ s.lpc = .decrementing then 1 else 0)

theorem posterStep_cases {s s' : St} {me : Option Nat} {p p' : Poster} (h : posterStep s me p = some (s', p')) :
    (p.pc = .idle ∧ ∃ hd rest, p.todo = hd :: rest ∧ s.holder = none ∧ s' = { s with holder := some me } ∧
        p' = { todo := rest, pc := .locked, cur := hd })
    ∨ (p.pc = .locked ∧ s' = { s with posts := s.posts ++ [p.cur], postedLog := s.postedLog ++ [p.cur], pending := s.pending + 1 } ∧
        p' = { p with pc := .appended })
    ∨ (p.pc = .appended ∧ s' = { s with holder := none } ∧ p' = { p with pc := .unlocked })
    ∨ (p.pc = .unlocked ∧ s' = { s with counter := s.counter + 1 } ∧ p' = { p with pc := .idle }) := by
  unfold posterStep at h
  split at h
  · rename_i hpc
    split at h
    · cases h
    · rename_i hd rest htodo
      split at h
      · rename_i hh
        cases h
        exact Or.inl ⟨hpc, hd, rest, htodo, hh, rfl, rfl⟩
      · cases h
  · rename_i hpc; cases h; exact Or.inr (Or.inl ⟨hpc, rfl, rfl⟩)
  · rename_i hpc; cases h; exact Or.inr (Or.inr (Or.inl ⟨hpc, rfl, rfl⟩))
  · rename_i hpc; cases h; exact Or.inr (Or.inr (Or.inr ⟨hpc, rfl, rfl⟩))

theorem posterStep_eq_none {s : St} {me : Option Nat} {p : Poster} :
    posterStep s me p = none ↔ p.pc = .idle ∧ (p.todo = [] ∨ s.holder ≠ none) := by
  unfold posterStep
  split
  · rename_i hpc
    split
    · rename_i ht; simp [hpc, ht]
    · rename_i ht; by_cases hh : s.holder = none <;> simp [hpc, ht, hh]
  all_goals rename_i hpc; simp [hpc]

theorem step_poster_eq (nested : H → List H) (s : St) (i : Nat) :
    step nested s (some i) = (posterStep s (some i) (s.posters i)).map fun r => setPoster r.1 i r.2 := by
  cases h : posterStep s (some i) (s.posters i) <;> simp [step, h]

theorem step_loop_eq_none {nested : H → List H} {s : St} (h : step nested s none = none) :
    (s.lpc = .waiting ∧ s.counter = 0) ∨ (s.lpc = .wantLock ∧ s.holder ≠ none) ∨
    (s.lpc = .inHandler ∧ s.nest.pc = .idle ∧ s.holder ≠ none) := by
  simp only [step] at h
  split at h
  · rename_i hl; exact Or.inl ⟨hl, by simpa using h⟩
  · cases h
  · rename_i hl; exact Or.inr (Or.inl ⟨hl, by simpa using h⟩)
  · cases h
  · cases h
  · split at h <;> cases h
  · rename_i hl
    split at h
    · cases h
    · rename_i hdone
      have hp : posterStep s none s.nest = none := by
        cases hp : posterStep s none s.nest <;> simp [hp] at h ⊢
      obtain ⟨hpc, ht | hh⟩ := posterStep_eq_none.1 hp
      · exact absurd ⟨ht, hpc⟩ hdone
      · exact Or.inr (Or.inr ⟨hl, hpc, hh⟩)
  · cases h

theorem init_inv (progs : Nat → List H) : Inv (init progs) where
  fifo := rfl
  batchEmpty := fun _ => rfl
  swapEmpty := fun h => by cases h
  mutexP := by intro i; simp [init, holdsP]
  mutexL := by simp [init, holdsP]
  nestIdle := fun _ => rfl
  wake := fun h => absurd rfl h
  pend := by simp [init]

namespace Inv
variable {s : St} (hI : Inv s)
include hI

theorem wake_posters (hne : s.posts ≠ [])
    (hl : s.lpc = .waiting ∨ s.lpc = .running ∨ s.lpc = .decrementing ∨ (s.lpc = .inHandler ∧ s.nest.pc = .idle)) :
    s.counter > 0 ∨ ∃ i, sigP (s.posters i) := by
  rcases hI.wake hne with h | h | ⟨h3, hs⟩ | h | h
  · exact Or.inl h
  · exact Or.inr h
  · rcases hl with hl | hl | hl | ⟨_, hl⟩
    · rw [hl] at h3; cases h3
    · rw [hl] at h3; cases h3
    · rw [hl] at h3; cases h3
    · rcases hs with hs | hs <;> rw [hl] at hs <;> cases hs
  all_goals rcases hl with hl | hl | hl | ⟨hl, _⟩ <;> rw [hl] at h <;> cases h

theorem append_fields (c : H) :
    s.executed ++ s.batch ++ (s.posts ++ [c]) = s.postedLog ++ [c] ∧
    s.pending + 1 = ((s.posts ++ [c]).length : Int) + s.batch.length +
      (if s.lpc = .inHandler ∨ s.lpc = .decrementing then 1 else 0) := by
  constructor
  · rw [← hI.fifo]; simp only [List.append_assoc]
  · rw [hI.pend, List.length_append, List.length_singleton]; push_cast; omega

end Inv

theorem mutexP_set {s1 : St} {i : Nat} {p' : Poster} (hi : holdsP p' ↔ s1.holder = some (some i))
    (ho : ∀ j, j ≠ i → (holdsP (s1.posters j) ↔ s1.holder = some (some j))) (j : Nat) :
    holdsP ((setPoster s1 i p').posters j) ↔ (setPoster s1 i p').holder = some (some j) := by
  show holdsP (if j = i then p' else s1.posters j) ↔ s1.holder = some (some j)
  by_cases hj : j = i
  · rw [if_pos hj, hj]; exact hi
  · rw [if_neg hj]; exact ho j hj

theorem poster_step_inv {s s1 : St} {i : Nat} {p' : Poster} (hI : Inv s)
    (h : posterStep s (some i) (s.posters i) = some (s1, p')) : Inv (setPoster s1 i p') := by
  rcases posterStep_cases h with ⟨hpc, hd, rest, _, hfree, rfl, rfl⟩ | ⟨hpc, rfl, rfl⟩ | ⟨hpc, rfl, rfl⟩ | ⟨hpc, rfl, rfl⟩
  · -- idle → locked: takes the free mutex
    refine { hI with
      mutexP := mutexP_set (iff_of_true (Or.inl rfl) rfl) fun j hj =>
        iff_of_false (mt (hI.mutexP j).1 (by simp [hfree])) fun hh => hj (by cases hh; rfl)
      mutexL := iff_of_false (mt hI.mutexL.1 (by simp [hfree])) nofun
      wake := fun hne => ?_ }
    -- thread `i` was idle, so it was not the pending wake-up
    refine (hI.wake hne).imp_right (Or.imp_left fun ⟨j, hs⟩ => ⟨j, ?_⟩)
    have hj : j ≠ i := fun hj => by rw [hj, sigP, hpc] at hs; simp at hs
    simpa [setPoster, hj] using hs
  · -- locked → appended: append + pending++
    have hhold : s.holder = some (some i) := (hI.mutexP i).1 (Or.inl hpc)
    obtain ⟨hf, hp⟩ := hI.append_fields (s.posters i).cur
    exact { hI with
      fifo := hf
      swapEmpty := fun hu => absurd (Or.inr (Or.inl hu)) (mt hI.mutexL.1 (by simp [hhold]))
      mutexP := mutexP_set (iff_of_true (Or.inr rfl) hhold) fun j _ => hI.mutexP j
      wake := fun _ => Or.inr (Or.inl ⟨i, by simp [setPoster, sigP]⟩)
      pend := hp }
  · -- appended → unlocked: releases the mutex
    have hhold : s.holder = some (some i) := (hI.mutexP i).1 (Or.inr hpc)
    exact { hI with
      mutexP := mutexP_set (iff_of_false (by simp [holdsP]) nofun) fun j hj =>
        iff_of_false (mt (hI.mutexP j).1 (by simpa [hhold] using Ne.symm hj)) nofun
      mutexL := iff_of_false (mt hI.mutexL.1 (by simp [hhold])) nofun
      wake := fun _ => Or.inr (Or.inl ⟨i, by simp [setPoster, sigP]⟩) }
  · -- unlocked → idle: wakes the loop
    exact { hI with
      mutexP := mutexP_set
        (iff_of_false (by simp [holdsP]) fun hh => by simpa [holdsP, hpc] using (hI.mutexP i).2 hh)
        fun j _ => hI.mutexP j
      wake := fun _ => Or.inl (Nat.succ_pos _) }

theorem nest_step_inv {s s1 : St} {p' : Poster} (hI : Inv s) (hl : s.lpc = .inHandler)
    (h : posterStep s none s.nest = some (s1, p')) : Inv { s1 with nest := p' } := by
  have hin : ∀ {q : Prop}, (s.lpc = .swapping ∨ s.lpc = .unlocking ∨ (s.lpc = .inHandler ∧ q)) ↔ q := by simp [hl]
  rcases posterStep_cases h with ⟨hpc, hd, rest, _, hfree, rfl, rfl⟩ | ⟨hpc, rfl, rfl⟩ | ⟨hpc, rfl, rfl⟩ | ⟨hpc, rfl, rfl⟩
  · refine { hI with
      mutexP := fun j => iff_of_false (mt (hI.mutexP j).1 (by simp [hfree])) nofun
      mutexL := iff_of_true (hin.2 (Or.inl rfl)) rfl
      nestIdle := fun hne => absurd hl hne
      wake := fun hne => ?_ }
    -- the nested `Post` had not begun, so the loop was not the pending wake-up
    rcases hI.wake hne with h1 | h2 | ⟨_, h3⟩ | h4 | h5
    · exact Or.inl h1
    · exact Or.inr (Or.inl h2)
    · simp [sigP, hpc] at h3
    · rw [hl] at h4; cases h4
    · rw [hl] at h5; cases h5
  · obtain ⟨hf, hp⟩ := hI.append_fields s.nest.cur
    exact { hI with
      fifo := hf
      swapEmpty := fun hu => nomatch hl.symm.trans hu
      mutexL := iff_of_true (hin.2 (Or.inr rfl)) (hI.mutexL.1 (hin.2 (Or.inl hpc)))
      nestIdle := fun hne => absurd hl hne
      wake := fun _ => Or.inr (Or.inr (Or.inl ⟨hl, Or.inl rfl⟩))
      pend := hp }
  · have hhold : s.holder = some none := hI.mutexL.1 (hin.2 (Or.inr hpc))
    exact { hI with
      mutexP := fun j => iff_of_false (mt (hI.mutexP j).1 (by simp [hhold])) nofun
      mutexL := iff_of_false (mt hin.1 (by simp [holdsP])) nofun
      nestIdle := fun hne => absurd hl hne
      wake := fun _ => Or.inr (Or.inr (Or.inl ⟨hl, Or.inr rfl⟩)) }
  · exact { hI with
      mutexL := iff_of_false (mt hin.1 (by simp [holdsP])) (mt hI.mutexL.2 (mt hin.1 (by simp [holdsP, hpc])))
      nestIdle := fun hne => absurd hl hne
      wake := fun _ => Or.inl (Nat.succ_pos _) }

theorem step_inv (nested : H → List H) {s s' : St} (t : Option Nat) (hI : Inv s) (h : step nested s t = some s') : Inv s' := by
  cases t with
  | some i =>
    rw [step_poster_eq, Option.map_eq_some_iff] at h
    obtain ⟨⟨s1, p'⟩, hp, rfl⟩ := h
    exact poster_step_inv hI hp
  | none =>
    simp only [step] at h
    have hwake {R : Prop} (hne : s.posts ≠ []) hl : s.counter > 0 ∨ (∃ i, sigP (s.posters i)) ∨ R :=
      (hI.wake_posters hne hl).imp_right Or.inl
    cases hl : s.lpc with
    | waiting =>
      simp only [hl] at h
      split at h
      · cases h
        exact { hI with
          batchEmpty := fun _ => hI.batchEmpty (Or.inl hl)
          swapEmpty := nofun
          mutexL := iff_of_false (by simp) (mt hI.mutexL.2 (by simp [hl]))
          nestIdle := fun _ => hI.nestIdle (by simp [hl])
          wake := fun hne => hwake hne (Or.inl hl)
          pend := by simpa [hl] using hI.pend }
      · cases h
    | draining =>
      simp only [hl] at h
      cases h
      exact { hI with
        batchEmpty := fun _ => hI.batchEmpty (Or.inr (Or.inl hl))
        swapEmpty := nofun
        mutexL := iff_of_false (by simp) (mt hI.mutexL.2 (by simp [hl]))
        nestIdle := fun _ => hI.nestIdle (by simp [hl])
        wake := fun _ => Or.inr (Or.inr (Or.inr (Or.inl rfl)))
        pend := by simpa [hl] using hI.pend }
    | wantLock =>
      simp only [hl] at h
      split at h
      · rename_i hfree
        cases h
        exact { hI with
          batchEmpty := fun _ => hI.batchEmpty (Or.inr (Or.inr (Or.inl hl)))
          swapEmpty := nofun
          mutexP := fun j => iff_of_false (mt (hI.mutexP j).1 (by simp [hfree])) nofun
          mutexL := iff_of_true (Or.inl rfl) rfl
          nestIdle := fun _ => hI.nestIdle (by simp [hl])
          wake := fun _ => Or.inr (Or.inr (Or.inr (Or.inr rfl)))
          pend := by simpa [hl] using hI.pend }
      · cases h
    | swapping =>
      simp only [hl] at h
      cases h
      have hb := hI.batchEmpty (Or.inr (Or.inr (Or.inr hl)))
      refine { hI with
        fifo := ?_
        batchEmpty := by simp
        swapEmpty := fun _ => rfl
        mutexL := iff_of_true (Or.inr (Or.inl rfl)) (hI.mutexL.1 (Or.inl hl))
        nestIdle := fun _ => hI.nestIdle (by simp [hl])
        wake := fun hne => absurd rfl hne
        pend := ?_ }
      · show s.executed ++ s.posts ++ [] = s.postedLog
        rw [← hI.fifo, hb]; simp
      · have := hI.pend; rw [hl, hb] at this
        show s.pending = (([] : List H).length : Int) + s.posts.length + _
        simp at this ⊢; omega
    | unlocking =>
      simp only [hl] at h
      cases h
      have hhold : s.holder = some none := hI.mutexL.1 (Or.inr (Or.inl hl))
      exact { hI with
        batchEmpty := by simp
        swapEmpty := nofun
        mutexP := fun j => iff_of_false (mt (hI.mutexP j).1 (by simp [hhold])) nofun
        mutexL := iff_of_false (by simp) nofun
        nestIdle := fun _ => hI.nestIdle (by simp [hl])
        wake := fun hne => absurd (hI.swapEmpty hl) hne
        pend := by simpa [hl] using hI.pend }
    | running =>
      simp only [hl] at h
      have hfree := mt hI.mutexL.2 (by simp [hl])
      split at h
      · rename_i hb
        cases h
        exact { hI with
          batchEmpty := fun _ => hb
          swapEmpty := nofun
          mutexL := iff_of_false (by simp) hfree
          nestIdle := fun _ => hI.nestIdle (by simp [hl])
          wake := fun hne => hwake hne (Or.inr (Or.inl hl))
          pend := by simpa [hl] using hI.pend }
      · rename_i hd r hb
        cases h
        refine { hI with
          fifo := ?_
          batchEmpty := by simp
          swapEmpty := nofun
          mutexL := iff_of_false (by simp [holdsP]) hfree
          nestIdle := fun hne => absurd rfl hne
          wake := fun hne => hwake hne (Or.inr (Or.inl hl))
          pend := ?_ }
        · show (s.executed ++ [hd]) ++ r ++ s.posts = s.postedLog
          rw [← hI.fifo, hb]; simp
        · have := hI.pend; rw [hl, hb] at this
          show s.pending = (s.posts.length : Int) + r.length + _
          simp at this ⊢; omega
    | inHandler =>
      simp only [hl] at h
      split at h
      · rename_i hdone
        cases h
        exact { hI with
          batchEmpty := by simp
          swapEmpty := nofun
          mutexL := iff_of_false (by simp) (mt hI.mutexL.2 (by simp [hl, holdsP, hdone.2]))
          nestIdle := fun _ => hdone.2
          wake := fun hne => hwake hne (Or.inr (Or.inr (Or.inr ⟨hl, hdone.2⟩)))
          pend := by simpa [hl] using hI.pend }
      · cases hp : posterStep s none s.nest with
        | none => simp [hp] at h
        | some r =>
          obtain ⟨s1, p'⟩ := r
          simp only [hp, Option.some.injEq] at h
          subst h
          exact nest_step_inv hI hl hp
    | decrementing =>
      simp only [hl] at h
      cases h
      refine { hI with
        batchEmpty := by simp
        swapEmpty := nofun
        mutexL := iff_of_false (by simp) (mt hI.mutexL.2 (by simp [hl]))
        nestIdle := fun _ => hI.nestIdle (by simp [hl])
        wake := fun hne => hwake hne (Or.inr (Or.inr (Or.inl hl)))
        pend := ?_ }
      have := hI.pend; rw [hl] at this
      show s.pending - 1 = (s.posts.length : Int) + s.batch.length + _
      simp at this ⊢; omega

theorem reach_inv {nested : H → List H} {progs : Nat → List H} {s : St} (h : Reach nested progs s) : Inv s := by
  induction h with
  | init => exact init_inv progs
  | step t _ hs ih => exact step_inv nested t ih hs

theorem stuck_of_inv {nested : H → List H} {s : St} (hI : Inv s) (hstuck : ∀ t, step nested s t = none) :
    s.lpc = .waiting ∧ s.counter = 0 ∧ s.posts = [] ∧ s.batch = [] ∧ s.executed = s.postedLog ∧
    (∀ i, (s.posters i).pc = .idle ∧ (s.posters i).todo = []) := by
  -- a posting thread that cannot move is outside `Post`, with nothing to post or the mutex taken
  have hposter : ∀ i, (s.posters i).pc = .idle ∧ ((s.posters i).todo = [] ∨ s.holder ≠ none) := fun i =>
    posterStep_eq_none.1 (by simpa [step_poster_eq] using hstuck (some i))
  have hloop := step_loop_eq_none (hstuck none)
  -- nobody holds the mutex: a holder is inside its locked section, where it can always move
  have hfree : s.holder = none := by
    cases hh : s.holder with
    | none => rfl
    | some t =>
      cases t with
      | some i => exact absurd ((hI.mutexP i).2 hh) (by simp [holdsP, (hposter i).1])
      | none =>
        have := hI.mutexL.2 hh
        rcases hloop with ⟨hl, _⟩ | ⟨hl, _⟩ | ⟨hl, hpc, _⟩
        · simp [hl] at this
        · simp [hl] at this
        · simp [hl, holdsP, hpc] at this
  -- so the loop is not waiting for the mutex: it is blocked in the wait with nothing signalled
  obtain ⟨hw, hc⟩ | ⟨_, hh⟩ | ⟨_, _, hh⟩ := hloop
  · have hposts : s.posts = [] := Decidable.byContradiction fun hne => by
      rcases hI.wake_posters hne (Or.inl hw) with h1 | ⟨i, hi⟩
      · omega
      · simp [sigP, (hposter i).1] at hi
    have hbatch : s.batch = [] := hI.batchEmpty (Or.inl hw)
    exact ⟨hw, hc, hposts, hbatch, by simpa [hposts, hbatch] using hI.fifo,
      fun i => ⟨(hposter i).1, (hposter i).2.resolve_right (not_not_intro hfree)⟩⟩
  · exact absurd hfree hh
  · exact absurd hfree hh

end Sonic.Model.Post
