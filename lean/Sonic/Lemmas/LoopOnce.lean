/-
Reference counting for exactly-once completion (C01): `refs w op` is the number of places from which the loop
model could still invoke the callback of operation `op` — an unfinished start/schedule/post frame, a registered
interest whose stored handler belongs to `op`, an entry of the post queue.  This file defines the count and says what
each update of an object does to it.
-/
import Sonic.Lemmas.LoopInv

namespace Sonic.Model.Loop
open Sonic.Spec.Loop (Ev Ret Res OpKind ObjKind maxDispatch)

def frameRef (op : Nat) : K → Int
  | .startCall op' _ _ false => if op' = op then 1 else 0
  | .schedCall op' _ _ _ false => if op' = op then 1 else 0
  | .postCall op' => if op' = op then 1 else 0
  | _ => 0

def frameRefs (op : Nat) : List K → Int
  | [] => 0
  | k :: r => frameRef op k + frameRefs op r

def objRef (op : Nat) (o : Obj) : Int :=
  (if o.evR ∧ o.hR = op then 1 else 0) + (if o.evW ∧ o.hW = op then 1 else 0)

def objRefs (op : Nat) : List Obj → Int
  | [] => 0
  | o :: r => objRef op o + objRefs op r

def postRefs (op : Nat) : List Nat → Int
  | [] => 0
  | p :: r => (if p = op then 1 else 0) + postRefs op r

def refs (w : World) (op : Nat) : Int := frameRefs op w.stack + objRefs op w.objs + postRefs op w.posts

theorem objRef_nonneg (op : Nat) (o : Obj) : 0 ≤ objRef op o :=
  Int.add_nonneg (ind_nonneg _) (ind_nonneg _)

theorem objRefs_nonneg (op : Nat) : ∀ l : List Obj, 0 ≤ objRefs op l
  | [] => Int.le_refl 0
  | o :: r => Int.add_nonneg (objRef_nonneg op o) (objRefs_nonneg op r)

theorem frameRef_nonneg (op : Nat) (k : K) : 0 ≤ frameRef op k := by
  unfold frameRef; split <;> first | exact ind_nonneg _ | exact Int.le_refl 0

theorem frameRefs_nonneg (op : Nat) : ∀ l : List K, 0 ≤ frameRefs op l
  | [] => Int.le_refl 0
  | k :: r => Int.add_nonneg (frameRef_nonneg op k) (frameRefs_nonneg op r)

theorem postRefs_nonneg (op : Nat) : ∀ l : List Nat, 0 ≤ postRefs op l
  | [] => Int.le_refl 0
  | _ :: r => Int.add_nonneg (ind_nonneg _) (postRefs_nonneg op r)

theorem refs_nonneg (w : World) (x : Nat) : 0 ≤ refs w x := by
  have := frameRefs_nonneg x w.stack; have := objRefs_nonneg x w.objs; have := postRefs_nonneg x w.posts
  unfold refs; omega

theorem postRefs_append (op : Nat) (a b : List Nat) : postRefs op (a ++ b) = postRefs op a + postRefs op b := by
  induction a with
  | nil => simp [postRefs]
  | cons x r ih => simp only [List.cons_append, postRefs, ih]; omega

theorem objRefs_setObj {w : World} {k : Nat} {o : Obj} (x : Nat) (o' : Obj) (hn : (ids w.objs).Nodup)
    (hg : getObj w k = some o) (hid : o'.id = o.id) :
    objRefs x (setObj w o').objs = objRefs x w.objs - objRef x o + objRef x o' :=
  sum_map_set (fun _ _ => rfl) _ o o' hn (getObj_mem hg) hid

theorem objRefs_setObj_same {w : World} {k : Nat} {o : Obj} (x : Nat) (o' : Obj) (hn : (ids w.objs).Nodup)
    (hg : getObj w k = some o) (hid : o'.id = o.id) (h : objRef x o' = objRef x o) :
    objRefs x (setObj w o').objs = objRefs x w.objs := by
  rw [objRefs_setObj x o' hn hg hid, h]; omega

theorem objRef_le_objRefs (op : Nat) (w : World) (o : Obj) (hg : getObj w o.id = some o) : objRef op o ≤ objRefs op w.objs := by
  have hm := (find_mem hg).1
  generalize w.objs = l at hm
  induction l with
  | nil => cases hm
  | cons x r ih =>
    simp only [objRefs]
    rcases List.mem_cons.1 hm with h | h
    · subst h; have := objRefs_nonneg op r; omega
    · have := ih h; have := objRef_nonneg op x; omega

theorem objRefs_setRead_le {w : World} {k : Nat} {o : Obj} (x op : Nat) (hn : (ids w.objs).Nodup)
    (hg : getObj w k = some o) : objRefs x (setRead w o op).objs ≤ objRefs x w.objs + (if op = x then 1 else 0) := by
  have h0 := ind_nonneg (o.evR = true ∧ o.hR = x)
  have h1 := ind_mono (p := o.evR = true ∧ op = x) And.right
  unfold setRead
  split
  · rw [objRefs_setObj x { o with hR := op, registered := true } hn hg rfl]
    simp only [objRef]; omega
  · rw [objRefs_setObj (w := { w with pending := w.pending + 1 }) x { o with hR := op, evR := true, registered := true } hn hg rfl]
    simp only [objRef, eq_self, true_and]; omega

theorem objRefs_setWrite_le {w : World} {k : Nat} {o : Obj} (x op : Nat) (hn : (ids w.objs).Nodup)
    (hg : getObj w k = some o) : objRefs x (setWrite w o op).objs ≤ objRefs x w.objs + (if op = x then 1 else 0) := by
  have h0 := ind_nonneg (o.evW = true ∧ o.hW = x)
  have h1 := ind_mono (p := o.evW = true ∧ op = x) And.right
  unfold setWrite
  split
  · rw [objRefs_setObj x { o with hW := op, registered := true } hn hg rfl]
    simp only [objRef]; omega
  · rw [objRefs_setObj (w := { w with pending := w.pending + 1 }) x { o with hW := op, evW := true, registered := true } hn hg rfl]
    simp only [objRef, eq_self, true_and]; omega

theorem objRefs_armTimer_le {w : World} {k : Nat} {o : Obj} (x op : Nat) (rep : Bool) (hn : (ids w.objs).Nodup)
    (hg : getObj w k = some o) :
    objRefs x (armTimer w o op rep).objs ≤ objRefs x w.objs + (if op = x then 1 else 0) := by
  have h0 := ind_nonneg (o.evR = true ∧ o.hR = x)
  rw [armTimer_objs, objRefs_setObj x _ hn hg (by exact rfl)]
  simp only [objRef, eq_self, true_and]; omega

theorem objRefs_delRead {w : World} {k : Nat} {o : Obj} (x : Nat) (hn : (ids w.objs).Nodup) (hg : getObj w k = some o) :
    objRefs x (delRead w o).objs = objRefs x w.objs - (if o.evR ∧ o.hR = x then 1 else 0) := by
  unfold delRead
  split
  · rw [objRefs_setObj (w := { w with pending := w.pending - 1 }) x { o with evR := false, registered := o.evW } hn hg rfl]
    simp only [objRef, Bool.false_eq_true, false_and, if_false]; omega
  · rename_i h
    rw [if_neg (fun hh => h hh.1)]; omega

theorem objRefs_delWrite {w : World} {k : Nat} {o : Obj} (x : Nat) (hn : (ids w.objs).Nodup) (hg : getObj w k = some o) :
    objRefs x (delWrite w o).objs = objRefs x w.objs - (if o.evW ∧ o.hW = x then 1 else 0) := by
  unfold delWrite
  split
  · rw [objRefs_setObj (w := { w with pending := w.pending - 1 }) x { o with evW := false, registered := o.evR } hn hg rfl]
    simp only [objRef, Bool.false_eq_true, false_and, if_false]; omega
  · rename_i h
    rw [if_neg (fun hh => h hh.1)]; omega

theorem objRefs_clearRead_le {w : World} {k : Nat} {o : Obj} (x : Nat) (o' : Obj) (hn : (ids w.objs).Nodup)
    (hg : getObj w k = some o) (hid : o'.id = o.id) (hR : o'.evR = false) (hW : o'.evW = o.evW) (hhW : o'.hW = o.hW) :
    objRefs x (setObj w o').objs ≤ objRefs x w.objs := by
  have h0 := ind_nonneg (o.evR = true ∧ o.hR = x)
  rw [objRefs_setObj x o' hn hg hid]
  simp only [objRef, hR, hW, hhW, Bool.false_eq_true, false_and, if_false]; omega

theorem objRefs_closeObj_le {w : World} {k : Nat} {o : Obj} (x : Nat) (hn : (ids w.objs).Nodup) (hg : getObj w k = some o) :
    objRefs x (closeObj w o).objs ≤ objRefs x w.objs := by
  unfold closeObj
  split
  · exact objRefs_clearRead_le (w := unsetPending w o) x _ hn hg rfl rfl rfl rfl
  · have h0 := objRef_nonneg x o
    rw [objRefs_setObj (w := { w with pending := w.pending - ((if o.evR then 1 else 0) + (if o.evW then 1 else 0)) }) x
      { o with evR := false, evW := false, closed := true, registered := false } hn hg rfl]
    simp only [objRef, Bool.false_eq_true, false_and, if_false] at h0 ⊢; omega

end Sonic.Model.Loop
