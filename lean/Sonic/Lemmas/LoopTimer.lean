/-
Per-object invariant of the loop model for timers: a timer's read interest is registered exactly while its state
is `scheduled` (so `Scheduled()` tells whether a callback is still due, and a closed or cancelled timer has no
interest the poller could dispatch).
-/
import Sonic.Lemmas.LoopInv
import Sonic.Lemmas.LoopStep

namespace Sonic.Model.Loop
open Sonic.Spec.Loop (Ev Ret Res OpKind ObjKind maxDispatch)

/-- A timer has no write interest: `Cancel` and `Close` of a timer clear `evR` only, and nothing of the timer may stay
registered after them. -/
def TimerOk (o : Obj) : Prop := o.kind = .timer → (o.evR = (o.tstate == .scheduled) ∧ o.evW = false)

def TimerInv (w : World) : Prop := ∀ o ∈ w.objs, TimerOk o

theorem timer_init : TimerInv ({} : World) := fun o ho => by cases ho

theorem timerOk_not_timer {o : Obj} (h : o.kind ≠ .timer) : TimerOk o := fun hk => absurd hk h

theorem setRead_timer {w : World} {o : Obj} {op : Nat} (hI : TimerInv w) (hk : o.kind ≠ .timer) : TimerInv (setRead w o op) := by
  unfold setRead
  split <;> exact forall_setObj hI (timerOk_not_timer hk)

theorem setWrite_timer {w : World} {o : Obj} {op : Nat} (hI : TimerInv w) (hk : o.kind ≠ .timer) : TimerInv (setWrite w o op) := by
  unfold setWrite
  split <;> exact forall_setObj hI (timerOk_not_timer hk)

theorem delRead_timer {w : World} {o : Obj} (hI : TimerInv w) (hk : o.kind ≠ .timer) : TimerInv (delRead w o) := by
  unfold delRead; split
  · exact forall_setObj hI (timerOk_not_timer hk)
  · exact hI

theorem delWrite_timer {w : World} {o : Obj} (hI : TimerInv w) (hk : o.kind ≠ .timer) : TimerInv (delWrite w o) := by
  unfold delWrite; split
  · exact forall_setObj hI (timerOk_not_timer hk)
  · exact hI

theorem armTimer_timer {w : World} {o : Obj} {op : Nat} {rep : Bool} (hI : TimerInv w) (ho : TimerOk o) :
    TimerInv (armTimer w o op rep) := by
  unfold armTimer
  exact forall_setObj (by split <;> exact hI) fun hk => ⟨by simp, (ho hk).2⟩

theorem closeObj_timer {w : World} {o : Obj} (hI : TimerInv w) (ho : TimerOk o) : TimerInv (closeObj w o) := by
  unfold closeObj
  split
  · exact forall_setObj hI fun hk => ⟨by simp, (ho hk).2⟩
  · rename_i hk
    exact forall_setObj hI (timerOk_not_timer (by simpa using hk))

theorem timerOk_disarm {o o' : Obj} (ho : TimerOk o) (hR : o'.evR = false) (hs : o'.tstate ≠ .scheduled)
    (hW : o'.evW = o.evW) (hk : o'.kind = o.kind) : TimerOk o' := by
  intro hk'
  refine ⟨?_, by rw [hW]; exact (ho (hk ▸ hk')).2⟩
  rw [hR]; cases h : o'.tstate <;> first | rfl | exact absurd h hs

/-- **The timer invariant is preserved by every transition of the loop model.** The poller's helpers for I/O
objects never see a timer; arming sets interest and state together, and firing, `Cancel` and `Close` clear both. -/
theorem step_timer (w w' : World) (e : Ev) (hI : TimerInv w) (h : step w e = some w') : TimerInv w' := by
  cases step_sound h with
  | newObj hstk hfresh =>
    intro o hm
    rcases List.mem_cons.1 hm with rfl | hm
    · intro _; exact ⟨rfl, rfl⟩
    · exact hI o hm
  | exit hstk hrule =>
    cases hrule with
    | timerStop hobj hkind hcancel =>
      have ho := hI _ (getObj_mem hobj)
      exact forall_setObj hI (fun hk => ho hk)
    | timerRearm hobj => exact armTimer_timer hI (hI _ (getObj_mem hobj))
    | _ => exact hI
  | cancel hstk hrule =>
    cases hrule with
    | read hobj hcan => exact delRead_timer hI (not_timer_of_hasCancel hcan)
    | write hobj hcan => exact delWrite_timer hI (not_timer_of_hasCancel hcan)
    | done => exact hI
  | poll hstk hrule =>
    cases hrule with
    | post => exact hI
    | timer hop hkind hobj =>
      exact forall_setObj hI (timerOk_disarm (hI _ (getObj_mem hobj)) rfl (by simp) rfl rfl)
    | read hop hnopost hnotimer hobj hokind => exact delRead_timer hI hokind
    | write hop hnopost hnotimer hobj hokind => exact delWrite_timer hI hokind
  | deferRead hstk hobj hopen hkind => exact setRead_timer hI hkind
  | deferWrite hstk hobj hopen hkind => exact setWrite_timer hI hkind
  | close hstk hobj => exact closeObj_timer hI (hI _ (getObj_mem hobj))
  | schedNow hstk hobj =>
    have ho := hI _ (getObj_mem hobj)
    exact forall_setObj hI (fun hk => ho hk)
  | arm hstk hobj => exact armTimer_timer hI (hI _ (getObj_mem hobj))
  | tcancel hstk hobj =>
    exact forall_setObj hI (timerOk_disarm (hI _ (getObj_mem hobj)) rfl (by simp) rfl rfl)
  | _ => exact hI

end Sonic.Model.Loop
