/-
Helper lemmas for C10: the index invariant of `Sonic.Gen.BipBuffer` (regenerated from bip_buffer.go) and, per
method, a closed form of what the method computes under that invariant, free of 64-bit wrap (no index computation
leaves the `int` range) and of the repetition the translator introduces (it copies the code that follows an
`if` into both branches).  The index arithmetic is closed by `lia`, whose certificates the kernel re-checks faster
than `omega`'s here.
-/
import Sonic.Model.Bip
import Sonic.Lemmas.Cells

namespace Sonic.Props.C10
open Sonic.Gen.BipBuffer Sonic.Spec.Bip Sonic.Model.Bip

/-- The indices of a reachable buffer: data `[head, tail)`, wrapped data `[0, wrappedTail)` below it (`wrappedHead` is never
moved), a claim `[claimHead, claimTail)` that, next to data, lies behind the data or behind the wrapped data. An empty
buffer rests at offset 0 (`head = tail → head = 0`): that is what `Commit` with nothing claimed keeps since the repair
c69dca5 in /repo, and what makes `Claim` offer an empty buffer whole. -/
def Inv (b : BipBuffer) : Prop :=
  0 ≤ b.size ∧ b.size ≤ Go.I64MAX ∧
  0 ≤ b.head ∧ b.head ≤ b.tail ∧ b.tail ≤ b.size ∧
  b.wrappedHead = 0 ∧ 0 ≤ b.wrappedTail ∧
  (b.wrappedTail > 0 → b.wrappedTail ≤ b.head ∧ b.head < b.tail) ∧
  (b.head = b.tail → b.head = 0) ∧
  0 ≤ b.claimHead ∧ b.claimHead ≤ b.claimTail ∧ b.claimTail ≤ b.size ∧
  (b.claimHead < b.claimTail → b.head < b.tail →
     (b.claimHead = b.tail ∧ b.wrappedTail = 0) ∨ (b.claimHead = b.wrappedTail ∧ b.claimTail ≤ b.head))

theorem inv_new (size : Int) (h0 : 0 ≤ size) (h1 : size ≤ Go.I64MAX) : Inv (new size) := by
  unfold Inv new; simp; lia

/-- The linear part of `Inv`: all that the wrap lemmas need, and free of case distinctions for `lia` to split on. -/
theorem Inv.bounds {b : BipBuffer} (hi : Inv b) :
    0 ≤ b.head ∧ b.head ≤ b.tail ∧ b.tail ≤ b.size ∧ b.size ≤ Go.I64MAX ∧ b.wrappedHead = 0 ∧
    0 ≤ b.wrappedTail ∧ b.wrappedTail ≤ b.head ∧ 0 ≤ b.claimHead ∧ b.claimHead ≤ b.claimTail ∧ b.claimTail ≤ b.size := by
  unfold Inv at hi; lia

theorem Inv.wrapped {b : BipBuffer} (hi : Inv b) : b.wrappedTail > 0 → b.wrappedTail ≤ b.head ∧ b.head < b.tail :=
  hi.2.2.2.2.2.2.2.1

theorem Inv.empty {b : BipBuffer} (hi : Inv b) : b.head = b.tail → b.head = 0 :=
  hi.2.2.2.2.2.2.2.2.1

theorem Inv.claim {b : BipBuffer} (hi : Inv b) : b.claimHead < b.claimTail → b.head < b.tail →
    (b.claimHead = b.tail ∧ b.wrappedTail = 0) ∨ (b.claimHead = b.wrappedTail ∧ b.claimTail ≤ b.head) :=
  hi.2.2.2.2.2.2.2.2.2.2.2.2

/-- The conditions come as one conjunction so that a caller discharges them with a single `lia`. -/
theorem Inv.ofData {b : BipBuffer} (hi : Inv b) {h t w : Int}
    (hd : 0 ≤ h ∧ h ≤ t ∧ t ≤ b.size ∧ 0 ≤ w ∧ (w > 0 → w ≤ h ∧ h < t) ∧ (h = t → h = 0)) :
    Inv { b with head := h, tail := t, wrappedTail := w, claimHead := 0, claimTail := 0 } :=
  ⟨hi.1, hi.2.1, hd.1, hd.2.1, hd.2.2.1, hi.2.2.2.2.2.1, hd.2.2.2.1, hd.2.2.2.2.1, hd.2.2.2.2.2, Int.le_refl 0,
    Int.le_refl 0, hi.1, fun h => absurd h (Int.lt_irrefl 0)⟩

theorem Inv.withClaim {b : BipBuffer} (hi : Inv b) {lo hi' : Int} (h0 : 0 ≤ lo) (h1 : lo ≤ hi') (h2 : hi' ≤ b.size)
    (h3 : lo < hi' → b.head < b.tail → (lo = b.tail ∧ b.wrappedTail = 0) ∨ (lo = b.wrappedTail ∧ hi' ≤ b.head)) :
    Inv { b with claimHead := lo, claimTail := hi' } := by
  obtain ⟨a1, a2, a3, a4, a5, a6, a7, a8, a9, -⟩ := hi
  exact ⟨a1, a2, a3, a4, a5, a6, a7, a8, a9, h0, h1, h2, h3⟩

def span (lo k cap : Int) : Go.View := { lo := lo, hi := lo + k, capEnd := cap, valid := true }

theorem slice_whole {lo k cap : Int} (hlo : 0 ≤ lo) (hk : 0 ≤ k) (hc : lo + k ≤ cap) :
    Go.View.slice (Go.View.whole cap) (some lo) (some (lo + k)) = span lo k cap := by
  simp [Go.View.slice, Go.View.whole, span]
  lia

theorem obsView_span (lo k cap : Int) : obsView (span lo k cap) = if k ≤ 0 then .view 0 0 else .view lo k := by
  unfold obsView span
  rw [show lo + k - lo = k by lia]
  rfl

/-- `Claim` once the free region `[lo, lo + free)` is chosen: `min free n` cells from `lo`. -/
def claimAt (b : BipBuffer) (lo free n : Int) : BipBuffer × Go.View :=
  if free = 0 then (b, Go.View.nil)
  else ({ b with claimHead := lo, claimTail := lo + imin free n }, span lo (imin free n) b.size)

/-- The left side is the code that follows the choice of the region as the translator writes it, once per region
(`commitAt_of` likewise for `Commit`). -/
theorem claimAt_of (b : BipBuffer) {lo free n : Int} (hlo : 0 ≤ lo) (hfree : 0 ≤ free) (hn : 0 ≤ n)
    (hsz : lo + free ≤ b.size) (hmax : b.size ≤ Go.I64MAX) :
    (if free = 0 then (b, Go.View.nil)
     else if free > n then
       ({ b with claimHead := lo, claimTail := Go.add lo n },
        Go.View.slice (Go.View.whole b.size) (some lo) (some (Go.add lo n)))
     else
       ({ b with claimHead := lo, claimTail := Go.add lo free },
        Go.View.slice (Go.View.whole b.size) (some lo) (some (Go.add lo free)))) = claimAt b lo free n := by
  unfold claimAt imin
  split
  · rfl
  · split
    · rw [Go.add_eq (by lia), slice_whole hlo hn (by lia), if_neg (by lia)]
    · rw [Go.add_eq (by lia), slice_whole hlo hfree hsz, if_pos (by lia)]

structure FreeRegion (b : BipBuffer) (lo free : Int) : Prop where
  lo_nonneg : 0 ≤ lo
  free_nonneg : 0 ≤ free
  inside : lo + free ≤ b.size
  noData : (lo + free ≤ b.head ∨ b.tail ≤ lo) ∧ b.wrappedTail ≤ lo
  claimable : b.head < b.tail → (lo = b.tail ∧ b.wrappedTail = 0) ∨ (lo = b.wrappedTail ∧ lo + free ≤ b.head)
  noClaim : free = 0 → b.claimHead = b.claimTail
  whole : b.head = b.tail → free = b.size

theorem FreeRegion.behindWrapped {b : BipBuffer} (hi : Inv b) (hw : 0 < b.wrappedTail) :
    FreeRegion b b.wrappedTail (b.head - b.wrappedTail) := by
  have hb := hi.bounds
  have h1 := hi.wrapped hw
  have h2 := hi.claim
  exact ⟨by lia, by lia, by lia, by lia, by lia, by lia, by lia⟩

theorem FreeRegion.behindData {b : BipBuffer} (hi : Inv b) (hw : b.wrappedTail ≤ 0) (h : b.head ≤ b.size - b.tail) :
    FreeRegion b b.tail (b.size - b.tail) := by
  have hb := hi.bounds
  have h1 := hi.empty
  have h2 := hi.claim
  exact ⟨by lia, by lia, by lia, by lia, by lia, by lia, by lia⟩

theorem FreeRegion.beforeData {b : BipBuffer} (hi : Inv b) (hw : b.wrappedTail ≤ 0) (h : ¬ b.head ≤ b.size - b.tail) :
    FreeRegion b 0 b.head := by
  have hb := hi.bounds
  have h1 := hi.empty
  have h2 := hi.claim
  exact ⟨by lia, by lia, by lia, by lia, by lia, by lia, by lia⟩

/-- `Claim` chooses among three regions: behind the wrapped data, behind the data, in front of the data. -/
theorem Claim_eq {b : BipBuffer} (hi : Inv b) {n : Int} (hn : 0 ≤ n) :
    ∃ lo free, FreeRegion b lo free ∧ b.Claim n = claimAt b lo free n := by
  obtain ⟨h1, h2, h3, h4, h5, h6, h7, -⟩ := hi.bounds
  have e1 : Go.sub b.wrappedTail b.wrappedHead = b.wrappedTail := by
    rw [Go.sub_eq (by lia), h5, Int.sub_zero]
  have e2 : Go.sub b.head b.wrappedTail = b.head - b.wrappedTail := Go.sub_eq (by lia)
  have e3 : Go.sub b.size b.tail = b.size - b.tail := Go.sub_eq (by lia)
  simp only [BipBuffer.Claim, BipBuffer.Wrapped, BipBuffer.Size, decide_eq_true_eq, e1, e2, e3, gt_iff_lt]
  -- `by_cases` and `rw [if_pos _]` rather than `split`, which is several times slower to check on a goal of this size
  by_cases hw : 0 < b.wrappedTail
  · rw [if_pos hw]
    exact ⟨_, _, .behindWrapped hi hw, claimAt_of b h6 (by lia) hn (by lia) h4⟩
  · rw [if_neg hw]
    by_cases h : b.head ≤ b.size - b.tail
    · rw [if_pos h]
      exact ⟨_, _, .behindData hi (by lia) h, claimAt_of b (by lia) (by lia) hn (by lia) h4⟩
    · rw [if_neg h]
      exact ⟨_, _, .beforeData hi (by lia) h, claimAt_of b (Int.le_refl 0) h1 hn (by lia) h4⟩

theorem Committed_eq {b : BipBuffer} (hi : Inv b) :
    b.Committed = b.tail - b.head + b.wrappedTail := by
  obtain ⟨h1, h2, h3, h4, h5, h6, h7, -⟩ := hi.bounds
  rw [BipBuffer.Committed, Go.sub_eq (a := b.tail) (by lia), Go.add_eq (by lia),
    Go.sub_eq (by lia), h5, Int.sub_zero]

/-- `Commit` of `k` cells of the claim: the claim is dropped and its first `k` cells join the data, as a new run if the
buffer is empty, behind the data if the claim starts there, else behind the wrapped data. -/
def commitAt (b : BipBuffer) (k : Int) : BipBuffer × Go.View :=
  if k = 0 then ({ b with claimHead := 0, claimTail := 0 }, Go.View.nil)
  else if b.head = b.tail then
    ({ b with head := b.claimHead, tail := b.claimHead + k, claimHead := 0, claimTail := 0 }, span b.claimHead k b.size)
  else if b.claimHead = b.tail then
    ({ b with tail := b.tail + k, claimHead := 0, claimTail := 0 }, span b.tail k b.size)
  else
    ({ b with wrappedTail := b.wrappedTail + k, claimHead := 0, claimTail := 0 }, span b.wrappedTail k b.size)

theorem commitAt_of {b : BipBuffer} (hi : Inv b) {k : Int} (hk : 0 < k) (hkc : k ≤ b.claimTail - b.claimHead) :
    (if Go.sub (Go.add (Go.sub b.tail b.head) b.wrappedTail) b.wrappedHead = 0 then
       ({ b with head := b.claimHead, tail := Go.add b.claimHead k, claimHead := 0, claimTail := 0 },
        Go.View.slice (Go.View.whole b.size) (some b.claimHead) (some (Go.add b.claimHead k)))
     else if b.claimHead = b.tail then
       ({ b with tail := Go.add b.tail k, claimHead := 0, claimTail := 0 },
        Go.View.slice (Go.View.whole b.size) (some b.tail) (some (Go.add b.tail k)))
     else
       ({ b with wrappedTail := Go.add b.wrappedTail k, claimHead := 0, claimTail := 0 },
        Go.View.slice (Go.View.whole b.size) (some b.wrappedTail) (some (Go.add b.wrappedTail k)))) = commitAt b k := by
  obtain ⟨h1, h2, h3, h4, h5, h6, h7, h8, h9, h10⟩ := hi.bounds
  have hw := hi.wrapped
  rw [show Go.sub (Go.add (Go.sub b.tail b.head) b.wrappedTail) b.wrappedHead = _ from Committed_eq hi, commitAt,
    if_neg (show ¬ k = 0 by lia)]
  by_cases he : b.head = b.tail
  · rw [if_pos he, if_pos (by lia), Go.add_eq (by lia), slice_whole h8 (by lia) (by lia)]
  · rw [if_neg he, if_neg (by lia)]
    -- a claim next to data lies behind the data or behind the wrapped data
    have hc := hi.claim (by lia) (by lia)
    by_cases ht : b.claimHead = b.tail
    · rw [if_pos ht, if_pos ht, Go.add_eq (by lia), slice_whole (by lia) (by lia) (by lia)]
    · rw [if_neg ht, if_neg ht, Go.add_eq (by lia), slice_whole h6 (by lia) (by lia)]

theorem Commit_eq {b : BipBuffer} (hi : Inv b) {n : Int} (hn : 0 ≤ n) :
    b.Commit n = commitAt b (imin n (b.claimTail - b.claimHead)) := by
  obtain ⟨-, -, -, h4, -, -, -, h8, h9, h10⟩ := hi.bounds
  have e : Go.sub b.claimTail b.claimHead = b.claimTail - b.claimHead := Go.sub_eq (by lia)
  simp only [BipBuffer.Commit, BipBuffer.Committed, e, gt_iff_lt]
  rcases imin_cases n (b.claimTail - b.claimHead) with ⟨hk, h⟩ | ⟨hk, h⟩ <;> rw [hk]
  · by_cases h0 : n = 0
    · subst h0; rfl
    · rw [if_neg h0]
      by_cases hlt : n < b.claimTail - b.claimHead
      · rw [if_pos hlt, if_neg h0]
        exact commitAt_of hi (by lia) h
      · have : n = b.claimTail - b.claimHead := by lia
        rw [if_neg hlt, ← this, if_neg h0]
        exact commitAt_of hi (by lia) h
  · rw [if_neg (by lia), if_neg (by lia)]
    by_cases h0 : b.claimTail - b.claimHead = 0
    · rw [if_pos h0, h0]; rfl
    · rw [if_neg h0]
      exact commitAt_of hi (by lia) (Int.le_refl _)

theorem Consume_eq {b : BipBuffer} (hi : Inv b) {n : Int} (hn : 0 ≤ n) :
    b.Consume n =
      if b.tail - b.head ≤ n then { b with head := 0, tail := b.wrappedTail, wrappedHead := 0, wrappedTail := 0 }
      else { b with head := b.head + n } := by
  obtain ⟨h1, h2, h3, h4, h5, -⟩ := hi.bounds
  have e : Go.sub b.tail b.head = b.tail - b.head := Go.sub_eq (by lia)
  simp only [BipBuffer.Consume, e, ge_iff_le, h5]
  split
  · rfl
  · rw [Go.add_eq (by lia)]

theorem Head_eq {b : BipBuffer} (hi : Inv b) :
    b.Head = if b.head < b.tail then span b.head (b.tail - b.head) b.size else Go.View.nil := by
  obtain ⟨h1, h2, h3, h4, -⟩ := hi.bounds
  simp only [BipBuffer.Head, Go.sub_eq (a := b.tail) (b := b.head) (by lia), gt_iff_lt, Int.sub_pos]
  split
  · have := slice_whole (lo := b.head) (k := b.tail - b.head) (cap := b.size) h1 (by lia) (by lia)
    rw [show b.head + (b.tail - b.head) = b.tail by lia] at this
    exact this
  · rfl

end Sonic.Props.C10
