/-
Facts about the handshake model (`Sonic.Model.WsHandshake`): the blank-line search and the
read-until-terminator loop of `upgrade`, for every segmentation of the response.
-/
import Sonic.Model.WsHandshake

namespace Sonic.Lemmas.WsHandshake
open Sonic.Spec.WsHandshake Sonic.Model.WsHandshake

theorem startsBlank_length {u : Bytes} (h : startsBlank u = true) : 4 ≤ u.length := by
  match u with
  | [] | [_] | [_, _] | [_, _, _] => simp [startsBlank] at h
  | _ :: _ :: _ :: _ :: _ => simp

theorem startsBlank_append {u : Bytes} (v : Bytes) (h : 4 ≤ u.length) : startsBlank (u ++ v) = startsBlank u := by
  match u, h with
  | a :: b :: c :: d :: r, _ => simp [startsBlank]

theorem headEnd_cons (x : UInt8) (xs : Bytes) :
    headEnd (x :: xs) = if startsBlank (x :: xs) then some 4 else (headEnd xs).map (· + 1) := rfl

theorem headEnd_bounds : ∀ {u : Bytes} {k : Nat}, headEnd u = some k → 4 ≤ k ∧ k ≤ u.length := by
  intro u
  induction u with
  | nil => intro k h; cases h
  | cons x xs ih =>
    intro k h
    rw [headEnd_cons] at h
    split at h
    · rename_i hs
      injection h with h; subst h
      exact ⟨Nat.le_refl _, startsBlank_length hs⟩
    · cases hx : headEnd xs with
      | none => rw [hx] at h; cases h
      | some j =>
        rw [hx] at h
        injection h with h; subst h
        have := ih hx
        simp; omega

theorem headEnd_append_some : ∀ {u : Bytes} {k : Nat} (v : Bytes), headEnd u = some k → headEnd (u ++ v) = some k := by
  intro u
  induction u with
  | nil => intro k v h; cases h
  | cons x xs ih =>
    intro k v h
    have hb := headEnd_bounds h
    rw [List.cons_append, headEnd_cons, ← List.cons_append, startsBlank_append v (by omega)]
    rw [headEnd_cons] at h
    split at h
    · rename_i hs; rw [if_pos hs]; exact h
    · rename_i hs
      rw [if_neg hs]
      cases hx : headEnd xs with
      | none => rw [hx] at h; cases h
      | some j => rw [ih v hx]; rw [hx] at h; exact h

theorem headEnd_none_short {u : Bytes} (h : u.length < 4) : headEnd u = none := by
  cases hu : headEnd u with
  | none => rfl
  | some k => have := headEnd_bounds hu; omega

/-- The incremental search of `upgrade` finds what a search of the whole buffer finds. -/
theorem headEnd_incremental : ∀ (a b : Bytes), headEnd a = none →
    headEnd (a ++ b) = (headEnd ((a ++ b).drop (a.length - 3))).map (· + (a.length - 3)) := by
  intro a
  induction a with
  | nil => intro b _; simp
  | cons x xs ih =>
    intro b h
    by_cases hl : (x :: xs).length ≤ 3
    · rw [Nat.sub_eq_zero_of_le hl]; simp
    · have hl4 : 4 ≤ (x :: xs).length := Nat.not_le.1 hl
      rw [headEnd_cons] at h
      have hs : startsBlank (x :: xs) = false := by
        cases hsb : startsBlank (x :: xs)
        · rfl
        · rw [hsb] at h; simp at h
      rw [hs] at h
      simp only [Bool.false_eq_true, if_false] at h
      have hxs : headEnd xs = none := by
        cases hx : headEnd xs with
        | none => rfl
        | some j => rw [hx] at h; cases h
      rw [List.cons_append, headEnd_cons, ← List.cons_append, startsBlank_append b hl4, hs]
      simp only [Bool.false_eq_true, if_false]
      rw [ih b hxs]
      have e1 : (x :: xs).length - 3 = (xs.length - 3) + 1 := Nat.succ_sub (Nat.le_of_succ_le_succ hl4)
      rw [e1, List.cons_append, List.drop_succ_cons]
      cases headEnd (List.drop (xs.length - 3) (xs ++ b)) with
      | none => rfl
      | some j => rfl

theorem wantOf_pos (cuts : List Nat) {avail : Nat} (h : 1 ≤ avail) : 1 ≤ wantOf cuts avail := by
  unfold wantOf
  split
  · split <;> omega
  · exact h

theorem room_arith {len cap grown avail max : Nat} (hlen : len ≤ cap) (hsmall : len + avail < max) (hg : cap < grown) :
    ¬ (len = cap ∧ cap ≥ max) ∧ len < (if len = cap then grown else cap) := by
  constructor
  · omega
  · split <;> omega

theorem read_arith {want len cap avail max fuel n : Nat} (hroom : len < cap) (hw : 1 ≤ want) (ha : 1 ≤ avail)
    (hsmall : len + avail < max) (hfuel : avail < fuel + 1) (hn : min want (min (cap - len) avail) = n) :
    n ≤ avail ∧ len + n ≤ cap ∧ len + n + (avail - n) < max ∧ avail - n < fuel := by
  have h1 : 1 ≤ n := hn ▸ Nat.le_min.2 ⟨hw, Nat.le_min.2 ⟨Nat.sub_pos_of_lt hroom, ha⟩⟩
  have h2 : n ≤ avail := hn ▸ Nat.le_trans (Nat.min_le_right ..) (Nat.min_le_right ..)
  have h3 : n ≤ cap - len := hn ▸ Nat.le_trans (Nat.min_le_right ..) (Nat.min_le_left ..)
  refine ⟨h2, Nat.add_le_of_le_sub' (Nat.le_of_lt hroom) h3, ?_, ?_⟩
  · rw [Nat.add_assoc, Nat.add_sub_cancel' h2]; exact hsmall
  · clear hn; omega

/-- The read-until-terminator loop, for every way the transport cuts the stream (`cuts`) and every capacity growth:
it stops exactly at the first blank line of `buf ++ rest` (the bytes of the stream in order), having lost nothing;
if there is no blank line it ends with EOF (server closed) or keeps waiting. -/
theorem readLoop_spec (P : Params) (hgrow : ∀ c, c < P.grow c) :
    ∀ (fuel : Nat) (buf : Bytes) (cap : Nat) (w : Wire),
      headEnd buf = none → buf.length ≤ cap → buf.length + w.rest.length < maxHandshakeResponseLength →
      w.rest.length < fuel →
      (∀ k, headEnd (buf ++ w.rest) = some k →
        ∃ buf' cap' w', readLoop P fuel buf cap w = .found k buf' cap' w' ∧ buf' ++ w'.rest = buf ++ w.rest ∧
          k ≤ buf'.length ∧ w'.closed = w.closed) ∧
      (headEnd (buf ++ w.rest) = none → readLoop P fuel buf cap w = if w.closed then .eof else .blocked) := by
  intro fuel
  induction fuel with
  | zero => intro buf cap w _ _ _ h; cases h
  | succ f ih =>
    intro buf cap w hno hlen hsmall hfuel
    obtain ⟨hnl, hroom⟩ := room_arith hlen hsmall (hgrow cap)
    unfold readLoop
    rw [if_neg hnl]
    simp only
    generalize (if buf.length = cap then P.grow cap else cap) = cap1 at hroom ⊢
    cases hrest : w.rest with
    | nil =>
      simp only
      rw [hrest, List.append_nil] at *
      exact ⟨(fun k hk => by rw [hno] at hk; cases hk), fun _ => trivial⟩
    | cons x xs =>
      simp only
      rw [hrest] at hsmall hfuel
      generalize hn : min (wantOf w.cuts (x :: xs).length) (min (cap1 - buf.length) (x :: xs).length) = n
      obtain ⟨hn2, hn3, hsmall', hfuel'⟩ :=
        read_arith hroom (wantOf_pos w.cuts (Nat.succ_pos _)) (Nat.succ_pos _) hsmall hfuel hn
      have hsplit : buf ++ (x :: xs).take n ++ (x :: xs).drop n = buf ++ (x :: xs) := by
        rw [List.append_assoc, List.take_append_drop]
      have hinc : findFrom (buf.length - 3) (buf ++ (x :: xs).take n) = headEnd (buf ++ (x :: xs).take n) := by
        unfold findFrom; exact (headEnd_incremental buf _ hno).symm
      rw [hinc]
      have hdl : ((x :: xs).drop n).length = (x :: xs).length - n := List.length_drop
      have htl : ((x :: xs).take n).length = n := List.length_take_of_le hn2
      cases hfound : headEnd (buf ++ (x :: xs).take n) with
      | some resLen =>
        simp only
        have hfull : headEnd (buf ++ (x :: xs)) = some resLen := by
          rw [← hsplit]; exact headEnd_append_some _ hfound
        refine ⟨fun k hk => ?_, (fun hk => by rw [hfull] at hk; cases hk)⟩
        rw [hfull] at hk; injection hk with hk; subst hk
        exact ⟨_, _, _, rfl, hsplit, (headEnd_bounds hfound).2, rfl⟩
      | none =>
        simp only
        have := ih (buf ++ (x :: xs).take n) cap1 { w with rest := (x :: xs).drop n, cuts := w.cuts.tail } hfound
          (by rw [List.length_append, htl]; exact hn3)
          (show (buf ++ (x :: xs).take n).length + ((x :: xs).drop n).length < _ by
            rw [List.length_append, htl, hdl]; exact hsmall')
          (show ((x :: xs).drop n).length < f by rw [hdl]; exact hfuel')
        simp only [hsplit] at this
        exact this

end Sonic.Lemmas.WsHandshake
