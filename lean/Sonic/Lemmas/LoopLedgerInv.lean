/-
Model-only invariant used by the ledger refinement (`LoopLedgerSim.lean`): what the table of started operations says
about every stored handler, every queued post and every library frame on the stack.
-/
import Sonic.Lemmas.LoopInv

namespace Sonic.Model.Loop
open Sonic.Spec.Loop (Ev Ret Res OpKind ObjKind maxDispatch)

/-- What the table of started operations says of an object's stored handlers. The last clause: an armed timer is not marked `cancelled` (arming clears the mark, `Cancel` disarms), so the callback
frame the poller pushes when it fires starts out live (`LiveRel`). -/
def HObj (ops : List OpInfo) (o : Obj) : Prop :=
  (o.evR = true → ∃ info, opIn ops o.hR = some info ∧ info.obj = o.id ∧ info.kind ≠ .post ∧
      (o.kind = .timer → info.kind.isTimer = true) ∧ (o.kind ≠ .timer → info.kind.isRead = true)) ∧
  (o.evW = true → ∃ info, opIn ops o.hW = some info ∧ info.obj = o.id ∧ info.kind ≠ .post ∧ info.kind.isWrite = true) ∧
  (o.kind = .timer → o.evR = true → o.cancelled = false)

def FrameOk (ops : List OpInfo) : K → Prop
  | .startCall op k kind _ => opIn ops op = some ⟨op, k, kind⟩ ∧ kind.isIO = true
  | .schedCall op k rep _ _ => opIn ops op = some ⟨op, k, if rep then .timerRep else .timerOnce⟩
  | .postCall op => opIn ops op = some ⟨op, 0, .post⟩
  | .user op (.timerDone k true _) => opIn ops op = some ⟨op, k, .timerRep⟩
  | _ => True

structure LInv (w : World) : Prop where
  objs : ∀ o ∈ w.objs, HObj w.ops o
  posts : ∀ p ∈ w.posts, opIn w.ops p = some ⟨p, 0, .post⟩
  frames : ∀ f ∈ w.stack, FrameOk w.ops f

theorem linv_init : LInv ({} : World) := ⟨(fun o ho => by cases ho), (fun p hp => by cases hp), (fun f hf => by cases hf)⟩

theorem hobj_mono {ops ops' : List OpInfo} (hm : ∀ {x info}, opIn ops x = some info → opIn ops' x = some info) {o : Obj}
    (h : HObj ops o) : HObj ops' o := by
  refine ⟨fun he => ?_, fun he => ?_, h.2.2⟩
  · obtain ⟨info, h1, h2⟩ := h.1 he; exact ⟨info, hm h1, h2⟩
  · obtain ⟨info, h1, h2⟩ := h.2.1 he; exact ⟨info, hm h1, h2⟩

theorem frameOk_mono {ops ops' : List OpInfo} (hm : ∀ {x info}, opIn ops x = some info → opIn ops' x = some info) {f : K}
    (h : FrameOk ops f) : FrameOk ops' f := by
  cases f with
  | startCall op k kind c => exact ⟨hm h.1, h.2⟩
  | schedCall op k rep t c => exact hm h
  | postCall op => exact hm h
  | user op a =>
    cases a with
    | timerDone k rep cb => cases rep <;> first | trivial | exact hm h
    | _ => trivial
  | _ => trivial

theorem top_frameOk {w : World} (hI : LInv w) {f : K} {rest : List K} (hstk : w.stack = f :: rest) : FrameOk w.ops f :=
  hI.frames _ (by rw [hstk]; exact List.mem_cons_self ..)

theorem linv_same {w w' : World} (hI : LInv w) (ho : w'.objs = w.objs) (hp : w'.posts = w.posts) (hops : w'.ops = w.ops)
    (hst : ∀ f ∈ w'.stack, f ∈ w.stack ∨ FrameOk w.ops f) : LInv w' := by
  refine ⟨?_, ?_, ?_⟩
  · rw [ho, hops]; exact hI.objs
  · rw [hp, hops]; exact hI.posts
  · rw [hops]; intro f hf
    rcases hst f hf with h | h
    · exact hI.frames f h
    · exact h

theorem linv_setObj {w w' : World} {o' : Obj} (hI : LInv w) (ho : w'.objs = (setObj w o').objs)
    (hp : w'.posts = w.posts) (hops : w'.ops = w.ops) (hobj : HObj w.ops o')
    (hst : ∀ f ∈ w'.stack, f ∈ w.stack ∨ FrameOk w.ops f) : LInv w' := by
  refine ⟨?_, ?_, ?_⟩
  · rw [ho, hops]; exact forall_setObj hI.objs hobj
  · rw [hp, hops]; exact hI.posts
  · rw [hops]; intro f hf
    rcases hst f hf with h | h
    · exact hI.frames f h
    · exact h

theorem hobj_of_getObj {w : World} {k : Nat} {o : Obj} (hI : LInv w) (hg : getObj w k = some o) : HObj w.ops o :=
  hI.objs o (getObj_mem hg)

theorem hobj_keep {ops : List OpInfo} {o o' : Obj} (h : HObj ops o) (hid : o'.id = o.id) (hk : o'.kind = o.kind)
    (hR : o'.evR = false ∨ (o'.evR = o.evR ∧ o'.hR = o.hR)) (hW : o'.evW = false ∨ (o'.evW = o.evW ∧ o'.hW = o.hW))
    (hc : o'.evR = true → o'.cancelled = false ∨ o'.cancelled = o.cancelled) : HObj ops o' := by
  refine ⟨fun he => ?_, fun he => ?_, fun hkt he => ?_⟩
  · rcases hR with h1 | ⟨h1, h2⟩
    · rw [h1] at he; cases he
    · rw [h2, hid, hk]; exact h.1 (by rw [← h1]; exact he)
  · rcases hW with h1 | ⟨h1, h2⟩
    · rw [h1] at he; cases he
    · rw [h2, hid]; exact h.2.1 (by rw [← h1]; exact he)
  · rcases hc he with h1 | h1
    · exact h1
    · rcases hR with h2 | ⟨h2, _⟩
      · rw [h2] at he; cases he
      · rw [h1]; exact h.2.2 (by rw [← hk]; exact hkt) (by rw [← h2]; exact he)

theorem hobj_setR {ops : List OpInfo} {o o' : Obj} {op : Nat} {info : OpInfo} (h : HObj ops o) (hid : o'.id = o.id) (hk : o'.kind = o.kind)
    (hR : o'.evR = true ∧ o'.hR = op) (hW : o'.evW = o.evW ∧ o'.hW = o.hW)
    (hop : opIn ops op = some info) (hobj : info.obj = o.id) (hnp : info.kind ≠ .post)
    (ht : o.kind = .timer → info.kind.isTimer = true ∧ o'.cancelled = false) (hr : o.kind ≠ .timer → info.kind.isRead = true) : HObj ops o' := by
  refine ⟨fun _ => ?_, fun he => ?_, fun hkt _ => ?_⟩
  · rw [hR.2, hid, hk]; exact ⟨info, hop, hobj, hnp, fun hkk => (ht hkk).1, hr⟩
  · rw [hW.2, hid]; exact h.2.1 (by rw [← hW.1]; exact he)
  · exact (ht (by rw [← hk]; exact hkt)).2

theorem hobj_setW {ops : List OpInfo} {o o' : Obj} {op : Nat} {info : OpInfo} (h : HObj ops o) (hid : o'.id = o.id) (hk : o'.kind = o.kind)
    (hnt : o.kind ≠ .timer) (hW : o'.evW = true ∧ o'.hW = op) (hR : o'.evR = o.evR ∧ o'.hR = o.hR)
    (hop : opIn ops op = some info) (hobj : info.obj = o.id) (hnp : info.kind ≠ .post) (hw : info.kind.isWrite = true) : HObj ops o' := by
  refine ⟨fun he => ?_, fun _ => ?_, fun hkt _ => ?_⟩
  · rw [hR.2, hid, hk]; exact h.1 (by rw [← hR.1]; exact he)
  · rw [hW.2, hid]; exact ⟨info, hop, hobj, hnp, hw⟩
  · exact absurd (by rw [← hk]; exact hkt) hnt

theorem setObj_objs_pending (w : World) (p : Int) (o : Obj) : (setObj { w with pending := p } o).objs = (setObj w o).objs := rfl

theorem sub_tail {w : World} {f : K} {rest : List K} (hst : w.stack = f :: rest) : ∀ g ∈ rest, g ∈ w.stack ∨ FrameOk w.ops g :=
  fun g hg => Or.inl (by rw [hst]; exact List.mem_cons_of_mem _ hg)

theorem sub_tail2 {w : World} {f a b : K} {rest : List K} (hst : w.stack = f :: rest) (ha : FrameOk w.ops a) (hb : FrameOk w.ops b) :
    ∀ g ∈ a :: b :: rest, g ∈ w.stack ∨ FrameOk w.ops g := by
  intro g hg
  rcases List.mem_cons.1 hg with rfl | hg
  · exact Or.inr ha
  rcases List.mem_cons.1 hg with rfl | hg
  · exact Or.inr hb
  · exact sub_tail hst g hg

theorem tail_sub {f : K} {rest st : List K} (hst : st = f :: rest) : ∀ g ∈ rest, g ∈ st ∨ FrameOk ([] : List OpInfo) g := by
  intro g hg; left; rw [hst]; exact List.mem_cons_of_mem _ hg

end Sonic.Model.Loop
