/-
C12, refinement layer: the coupling between the datagram model (`Model.Datagram.World`) and the monitor state
(`Spec.Datagram.S`), and its preservation by every operation.
-/
import Sonic.Lemmas.DatagramMemb

namespace Sonic.Lemmas.Datagram
open Sonic.Spec.Datagram Sonic.Model.Datagram

/-- Per-socket coupling. `nbuf` = number of buffers handed out so far; buffers are numbered in the order they are
handed out.  `m.cands` lists the buffers designated since the last completion (`read`, `setBuf`): a registered read
is into the one designated last (`cands`), every number is one already handed out (`candsLt`), and they are listed in
the order of designation (`candsInc`), so that the last one is not confused with an earlier one when the harness
looks the received bytes up by buffer number. -/
structure SockR (nbuf : Nat) (m : MSock) (t : Sock) : Prop where
  kern : t.kern = m.kern
  isOpen : t.isOpen = !m.closed
  out : t.out = if m.closed then [] else m.rxq
  pend : t.pend = m.read
  closedRead : m.closed = true → m.read = none
  memb : MembR m.membs t.memb
  getters : m.kind = .peer → m.cache.ttl = m.kern.ttl ∧ m.cache.localAddr = m.kern.name ∧ m.cache.outIp = m.kern.mcIf
      ∧ m.cache.outIf.getD 0 = m.kern.mcIf ∧ (t.loopSet = true → m.cache.loop = m.kern.loop)
  cands : ∀ cur len, m.read = some (cur, len) → ∃ pre, m.cands = pre ++ [(cur, len)]
  candsLt : ∀ c ∈ m.cands, c.1 < nbuf
  candsInc : m.cands.Pairwise (fun a b => a.1 < b.1)
  readLen : ∀ cur len, m.read = some (cur, len) → 0 < len

def OptR (nbuf : Nat) : Option MSock → Option Sock → Prop
  | none, none => True
  | some m, some t => SockR nbuf m t
  | _, _ => False

structure R (w : World) (st : S) : Prop where
  host : st.host = w.host
  socks : ∀ i, OptR w.nbuf (w.socks i) (st.socks i)
  notes : ∀ n ∈ st.notes, n = "loop-getter-inverted"

theorem R.init : R World.init Sonic.Spec.Datagram.init :=
  ⟨rfl, fun _ => trivial, fun _ h => by simp [Sonic.Spec.Datagram.init] at h⟩

/-- `Loop()` is held to the kernel's record only once a `SetLoop` has succeeded (`ls`): `GettersOk cache kern false`
leaves it out. -/
def GettersOk (cache : Cache) (kern : Kern) (ls : Bool) : Prop :=
  cache.ttl = kern.ttl ∧ cache.localAddr = kern.name ∧ cache.outIp = kern.mcIf ∧ cache.outIf.getD 0 = kern.mcIf
    ∧ (ls = true → cache.loop = kern.loop)

theorem SockR.mono {n n' : Nat} {m : MSock} {t : Sock} (h : SockR n m t) (hn : n ≤ n') : SockR n' m t :=
  { h with candsLt := fun c hc => Nat.lt_of_lt_of_le (h.candsLt c hc) hn }

theorem OptR.mono {n n' : Nat} {m : Option MSock} {t : Option Sock} (h : OptR n m t) (hn : n ≤ n') : OptR n' m t :=
  match m, t, h with
  | none, none, _ => trivial
  | some _, some _, h => SockR.mono h hn
  | none, some _, h => h.elim
  | some _, none, h => h.elim

theorem R.ofModel {w : World} {st : S} (h : R w st) {i : Nat} {m : MSock} (hw : w.socks i = some m) :
    ∃ t, st.socks i = some t ∧ SockR w.nbuf m t := by
  have hi := h.socks i
  rw [hw] at hi
  cases ht : st.socks i with
  | none => rw [ht] at hi; exact False.elim hi
  | some t => rw [ht] at hi; exact ⟨t, rfl, hi⟩

theorem R.ofSpec {w : World} {st : S} (h : R w st) {i : Nat} {t : Sock} (ht : st.socks i = some t) :
    ∃ m, w.socks i = some m ∧ SockR w.nbuf m t := by
  have hi := h.socks i
  rw [ht] at hi
  cases hw : w.socks i with
  | none => rw [hw] at hi; exact False.elim hi
  | some m => rw [hw] at hi; exact ⟨m, rfl, hi⟩

theorem R.none_iff {w : World} {st : S} (h : R w st) (i : Nat) : w.socks i = none ↔ st.socks i = none := by
  constructor
  · intro hw
    cases ht : st.socks i with
    | none => rfl
    | some t => obtain ⟨m, hm, _⟩ := h.ofSpec ht; rw [hw] at hm; cases hm
  · intro ht
    cases hw : w.socks i with
    | none => rfl
    | some m => obtain ⟨t, ht', _⟩ := h.ofModel hw; rw [ht] at ht'; cases ht'

theorem live_eq_some {w : World} {s : Nat} {m : MSock} :
    live w s = some m ↔ s < maxSock ∧ w.socks s = some m ∧ m.closed = false := by
  unfold live
  by_cases hs : s < maxSock
  · cases hw : w.socks s with
    | none => simp [hs]
    | some m' =>
      cases hc : m'.closed
      · simp only [hs, if_true, hc, Bool.false_eq_true, if_false, Option.some.injEq, true_and]
        constructor
        · intro e; subst e; exact ⟨rfl, hc⟩
        · intro e; exact e.1
      · simp only [hs, if_true, hc, true_and, Option.some.injEq]
        constructor
        · intro e; cases e
        · intro e; obtain ⟨e1, e2⟩ := e; subst e1; rw [hc] at e2; cases e2
  · simp [hs]

theorem R.ofLive {w : World} {st : S} (h : R w st) {s : Nat} {m : MSock} (hl : live w s = some m) :
    s < maxSock ∧ w.socks s = some m ∧ m.closed = false ∧ ∃ t, st.socks s = some t ∧ SockR w.nbuf m t := by
  obtain ⟨hs, hw, hc⟩ := live_eq_some.1 hl
  exact ⟨hs, hw, hc, h.ofModel hw⟩

theorem R.putSock {w : World} {st : S} (h : R w st) (s : Nat) {m : MSock} {t : Sock} (hm : SockR w.nbuf m t) :
    R (Model.Datagram.put w s m) (setSock st s t) := by
  refine ⟨h.host, fun i => ?_, h.notes⟩
  by_cases hi : i = s
  · subst hi; simpa [Model.Datagram.put, setSock, upd, OptR] using hm
  · simpa [Model.Datagram.put, setSock, upd, hi] using h.socks i

theorem R.bump {w : World} {st : S} (h : R w st) : R { w with nbuf := w.nbuf + 1 } st :=
  ⟨h.host, fun i => (h.socks i).mono (Nat.le_succ _), h.notes⟩

theorem R.withNotes {w : World} {st : S} (h : R w st) : R w { st with notes := st.notes ++ ["loop-getter-inverted"] } :=
  ⟨h.host, h.socks, fun n hn => by
    simp only [List.mem_append, List.mem_singleton] at hn
    rcases hn with hn | hn
    · exact h.notes n hn
    · exact hn⟩

theorem put_same {w : World} {s : Nat} {m : MSock} (hw : w.socks s = some m) : Model.Datagram.put w s m = w := by
  have : upd w.socks s (some m) = w.socks := by rw [← hw]; exact upd_self _ _
  simp [Model.Datagram.put, this]

theorem setSock_same {st : S} {s : Nat} {t : Sock} (ht : st.socks s = some t) : setSock st s t = st := by
  have : upd st.socks s (some t) = st.socks := by rw [← ht]; exact upd_self _ _
  simp [setSock, this]

theorem setSock_setSock (st : S) (s : Nat) (a b : Sock) : setSock (setSock st s a) s b = setSock st s b := by
  simp [setSock, upd_upd]

theorem setSock_socks (st : S) (s : Nat) (t : Sock) : (setSock st s t).socks s = some t := upd_same _ _ _

theorem R.setSpec {w : World} {st : S} (h : R w st) {s : Nat} {m : MSock} {t' : Sock} (hw : w.socks s = some m)
    (hr : SockR w.nbuf m t') : R w (setSock st s t') := by
  have := h.putSock s hr
  rwa [put_same hw] at this

theorem R.setModel {w : World} {st : S} (h : R w st) {s : Nat} {m : MSock} {t : Sock} (ht : st.socks s = some t)
    (hr : SockR w.nbuf m t) : R (Model.Datagram.put w s m) st := by
  have := h.putSock s hr
  rwa [setSock_same ht] at this

theorem SockR.fresh {n : Nat} {kind : Kind} {kern : Kern} {cache : Cache}
    (hg : kind = .peer → GettersOk cache kern false) :
    SockR n (freshSock kind kern cache)
      { kern := kern, memb := Memb.empty, out := [], pend := none, loopSet := false, isOpen := true } :=
  ⟨rfl, rfl, rfl, rfl, fun _ => rfl, MembR.init, hg, nofun, nofun, List.Pairwise.nil, nofun⟩

theorem SockR.setOpts {n : Nat} {m : MSock} {t : Sock} (hr : SockR n m t) (kern' : Kern) (cache' : Cache) (ls : Bool)
    (hg : m.kind = .peer → GettersOk cache' kern' ls) :
    SockR n { m with kern := kern', cache := cache' } { t with kern := kern', loopSet := ls } :=
  { hr with kern := rfl, getters := hg }

theorem SockR.setMemb {n : Nat} {m : MSock} {t : Sock} (hr : SockR n m t) (k' : KMembs) (a' : Memb) (hm : MembR k' a') :
    SockR n { m with membs := k' } { t with memb := a' } :=
  { hr with memb := hm }

theorem SockR.setBroken {n : Nat} {m : MSock} {t : Sock} (hr : SockR n m t) (b : Bool) : SockR n { m with broken := b } t :=
  { hr with }

theorem SockR.setQueue {n : Nat} {m : MSock} {t : Sock} (hr : SockR n m t) (hcl : m.closed = false) (q : List Dgram) :
    SockR n { m with rxq := q } { t with out := q } :=
  { hr with out := by simp [hcl] }

theorem SockR.setRead {n n' : Nat} {m : MSock} {t : Sock} (hr : SockR n m t) (hcl : m.closed = false)
    (rd : Option (Nat × Nat)) (cands : List (Nat × Nat))
    (hrd : ∀ cur len, rd = some (cur, len) → (∃ pre, cands = pre ++ [(cur, len)]) ∧ 0 < len)
    (hlt : ∀ c ∈ cands, c.1 < n') (hinc : cands.Pairwise (fun a b => a.1 < b.1)) :
    SockR n' { m with read := rd, cands := cands } { t with pend := rd } :=
  { hr with
    pend := rfl, closedRead := fun hc => (by rw [hcl] at hc; cases hc), candsLt := hlt, candsInc := hinc
    cands := fun cur len h => (hrd cur len h).1, readLen := fun cur len h => (hrd cur len h).2 }

theorem SockR.afterRecv {n n' : Nat} {m : MSock} {t : Sock} (hr : SockR n m t) (hcl : m.closed = false) (q : List Dgram) :
    SockR n' { m with rxq := q, read := none, cands := [] } { t with out := q, pend := none } :=
  (hr.setQueue hcl q).setRead hcl none [] nofun nofun List.Pairwise.nil

theorem pairwise_snoc {l : List (Nat × Nat)} {n : Nat} (hp : l.Pairwise (fun a b => a.1 < b.1)) (hl : ∀ c ∈ l, c.1 < n) (len : Nat) :
    (l ++ [(n, len)]).Pairwise (fun a b => a.1 < b.1) := by
  rw [List.pairwise_append]
  refine ⟨hp, by simp, ?_⟩
  intro a ha b hb
  simp only [List.mem_singleton] at hb
  subst hb
  exact hl a ha

theorem SockR.designate {n : Nat} {m : MSock} {t : Sock} (hr : SockR n m t) (hcl : m.closed = false) {len : Nat}
    (hlen : 0 < len) (rd : Option (Nat × Nat)) (hrd : ∀ x, rd = some x → x = (n, len)) :
    SockR (n + 1) { m with read := rd, cands := m.cands ++ [(n, len)] } { t with pend := rd } := by
  refine hr.setRead hcl rd _ (fun cur l h => ?_) (fun c hc => ?_) (pairwise_snoc hr.candsInc hr.candsLt len)
  · cases hrd _ h; exact ⟨⟨m.cands, rfl⟩, hlen⟩
  · rcases List.mem_append.1 hc with hc | hc
    · exact Nat.lt_succ_of_lt (hr.candsLt c hc)
    · cases List.mem_singleton.1 hc; exact Nat.lt_succ_self _

theorem run_nil (st : S) : Sonic.Spec.Datagram.run st [] = .ok st := rfl

theorem run_append (st : S) (a b : List Ev) :
    Sonic.Spec.Datagram.run st (a ++ b) = (match Sonic.Spec.Datagram.run st a with | .ok st' => Sonic.Spec.Datagram.run st' b | .error k => .error k) := by
  induction a generalizing st with
  | nil => rfl
  | cons e r ih =>
    simp only [List.cons_append, Sonic.Spec.Datagram.run]
    cases step st e with
    | ok st' => exact ih st'
    | error k => rfl

theorem run_one {st : S} {e : Ev} :
    Sonic.Spec.Datagram.run st [e] = step st e := by
  simp only [Sonic.Spec.Datagram.run]
  cases step st e <;> rfl

theorem run_two {st : S} {e1 e2 : Ev} {st1 : S} (h1 : step st e1 = .ok st1) :
    Sonic.Spec.Datagram.run st [e1, e2] = step st1 e2 := by
  simp only [Sonic.Spec.Datagram.run, h1]
  cases step st1 e2 <;> rfl

theorem step_setter {st : S} {s : Nat} {t : Sock} (ht : st.socks s = some t) (which : Setter) (err : Errc) :
    Sonic.Spec.Datagram.step st (.setter s which err)
      = .ok (if which = .loop ∧ err = .nil then setSock st s { t with loopSet := true } else st) := by
  simp [Sonic.Spec.Datagram.step, ht]

theorem step_memb_some {st : S} {s : Nat} {t : Sock} (ht : st.socks s = some t) (op : MOp) (err : Errc) :
    Sonic.Spec.Datagram.step st (.memb s (some op) err) = .ok (setSock st s { t with memb := mstep t.memb op (err == .nil) }) := by
  simp [Sonic.Spec.Datagram.step, ht]

theorem step_memb_none {st : S} {s : Nat} {t : Sock} (ht : st.socks s = some t) (err : Errc) :
    Sonic.Spec.Datagram.step st (.memb s none err) = .ok st := by
  simp [Sonic.Spec.Datagram.step, ht]

theorem step_readStart {st : S} {s : Nat} {t : Sock} (ht : st.socks s = some t) (hp : t.pend = none) (buf len : Nat) :
    Sonic.Spec.Datagram.step st (.readStart s buf len) = .ok (setSock st s { t with pend := some (buf, len) }) := by
  simp [Sonic.Spec.Datagram.step, ht, hp]

theorem step_readNone {st : S} {s : Nat} {t : Sock} (ht : st.socks s = some t) (ho : t.out = []) :
    Sonic.Spec.Datagram.step st (.readNone s) = .ok (setSock st s { t with pend := none }) := by
  simp [Sonic.Spec.Datagram.step, ht, ho]

theorem step_readPending {st : S} {s : Nat} {t : Sock} (ht : st.socks s = some t) (ho : t.out = []) :
    Sonic.Spec.Datagram.step st (.readPending s) = .ok st := by
  simp [Sonic.Spec.Datagram.step, ht, ho]

theorem step_setBuf {st : S} {s : Nat} {t : Sock} (ht : st.socks s = some t) (buf len : Nat) :
    Sonic.Spec.Datagram.step st (.setBuf s buf len) = .ok (setSock st s { t with pend := t.pend.map fun _ => (buf, len) }) := by
  cases hp : t.pend with
  | none =>
    have : ({ t with pend := none } : Sock) = t := by rw [← hp]
    simp [Sonic.Spec.Datagram.step, ht, hp, this, setSock_same ht]
  | some x => simp [Sonic.Spec.Datagram.step, ht, hp]

theorem step_closed {st : S} {s : Nat} {t : Sock} (ht : st.socks s = some t) :
    Sonic.Spec.Datagram.step st (.closed s) = .ok (setSock st s { t with isOpen := false, out := [], pend := none }) := by
  simp [Sonic.Spec.Datagram.step, ht]

def Refines (w : World) (st : S) (op : Op) : Prop :=
  ∃ st', Sonic.Spec.Datagram.run st (Model.Datagram.step w op).2 = .ok st' ∧ R (Model.Datagram.step w op).1 st'

/-- Operations the theorems are about: buffers handed to a read are not empty. -/
def OpOk : Op → Bool
  | .read _ len => 0 < len
  | .setBuf _ len => 0 < len
  | _ => true

theorem accept_skipped {w : World} {st : S} (h : R w st) :
    ∃ st', Sonic.Spec.Datagram.run st [.skipped] = .ok st' ∧ R w st' := ⟨st, rfl, h⟩

theorem accept_nop {w : World} {st : S} (h : R w st) :
    ∃ st', Sonic.Spec.Datagram.run st [.nop] = .ok st' ∧ R w st' := ⟨st, rfl, h⟩

theorem accept_live {w : World} {st : S} (h : R w st) (s : Nat) {f : MSock → World × List Ev}
    (hf : ∀ m, live w s = some m → ∃ st', Sonic.Spec.Datagram.run st (f m).2 = .ok st' ∧ R (f m).1 st') :
    ∃ st', Sonic.Spec.Datagram.run st (match live w s with | none => (w, [Ev.skipped]) | some m => f m).2 = .ok st'
      ∧ R (match live w s with | none => (w, [Ev.skipped]) | some m => f m).1 st' := by
  cases hl : live w s with
  | none => exact accept_skipped h
  | some m => exact hf m hl

theorem accept_peer {w : World} {st : S} (h : R w st) {m : MSock} {x : World × List Ev}
    (hx : m.kind = .peer → ∃ st', Sonic.Spec.Datagram.run st x.2 = .ok st' ∧ R x.1 st') :
    ∃ st', Sonic.Spec.Datagram.run st (if m.kind != .peer then (w, [.skipped]) else x).2 = .ok st'
      ∧ R (if m.kind != .peer then (w, [.skipped]) else x).1 st' := by
  by_cases hk : m.kind = .peer
  · rw [if_neg (by simp [hk])]; exact hx hk
  · rw [if_pos (bne_iff_ne.2 hk)]; exact accept_skipped h

theorem accept_getters_stale {w' : World} {st1 : S} {s : Nat} {m' : MSock} {t1 : Sock} (ht : st1.socks s = some t1)
    (hg : GettersOk m'.cache m'.kern t1.loopSet)
    (hR : R w' (setSock st1 s { t1 with kern := m'.kern })) :
    ∃ st', Sonic.Spec.Datagram.step st1 (.getters s (gettersOf m') m'.kern) = .ok st' ∧ R w' st' := by
  obtain ⟨h1, h2, h3, h4, h5⟩ := hg
  simp only [Sonic.Spec.Datagram.step, ht, gettersOf, h1, h2, h3, h4, bne_self_eq_false, Bool.false_eq_true, if_false, Bool.or_self]
  by_cases hl : m'.cache.loop = m'.kern.loop
  · simp only [hl, bne_self_eq_false, Bool.false_eq_true, if_false]
    exact ⟨_, rfl, hR⟩
  · have hls : t1.loopSet = false := by
      cases hx : t1.loopSet with
      | false => rfl
      | true => exact absurd (h5 hx) hl
    rw [if_pos (bne_iff_ne.2 hl), if_neg (by simp [hls])]
    exact ⟨_, rfl, hR.withNotes⟩

theorem accept_getters {w : World} {st : S} (h : R w st) {s : Nat} {m : MSock} {t : Sock} (hw : w.socks s = some m)
    (ht : st.socks s = some t) (hr : SockR w.nbuf m t) (hk : m.kind = .peer) :
    ∃ st', Sonic.Spec.Datagram.step st (.getters s (gettersOf m) m.kern) = .ok st' ∧ R w st' := by
  refine accept_getters_stale ht (hr.getters hk) (h.setSpec hw ?_)
  rw [← hr.kern]; exact hr

theorem accept_opened {w : World} {st : S} (h : R w st) (s : Nat) {kind : Kind} {kern : Kern} {cache : Cache} {api : Addr}
    {evs : List Ev}
    (hevs : ∀ st1 t, SockR w.nbuf (freshSock kind kern cache) t → st1.socks s = some t →
      R (Model.Datagram.put w s (freshSock kind kern cache)) st1 →
      ∃ st', Sonic.Spec.Datagram.run st1 evs = .ok st' ∧ R (Model.Datagram.put w s (freshSock kind kern cache)) st')
    (hg : kind = .peer → GettersOk cache kern false) :
    ∃ st', Sonic.Spec.Datagram.run st (if !canCreate w s then (w, [Ev.skipped])
        else (Model.Datagram.put w s (freshSock kind kern cache), .opened s api kern :: evs)).2 = .ok st'
      ∧ R (if !canCreate w s then (w, [Ev.skipped])
        else (Model.Datagram.put w s (freshSock kind kern cache), .opened s api kern :: evs)).1 st' := by
  by_cases hc : canCreate w s = true
  · rw [if_neg (by rw [hc]; nofun)]
    exact hevs _ _ (SockR.fresh hg) (setSock_socks _ _ _) (h.putSock s (SockR.fresh hg))
  · rw [if_pos (by simpa using hc)]
    exact accept_skipped h

theorem refines_newPc {w : World} {st : S} (h : R w st) (s : Nat) (f : PcForm) : Refines w st (.newPc s f) := by
  simp only [Refines, Model.Datagram.step]
  exact accept_opened h s (fun st1 _ _ _ hR => ⟨st1, rfl, hR⟩) nofun

theorem refines_newRaw {w : World} {st : S} (h : R w st) (s : Nat) (f : RawForm) : Refines w st (.newRaw s f) := by
  simp only [Refines, Model.Datagram.step]
  exact accept_opened h s (fun st1 _ _ _ hR => ⟨st1, rfl, hR⟩) nofun

theorem refines_newPeer {w : World} {st : S} (h : R w st) (s : Nat) (ip : Ip) (sh : Bool) : Refines w st (.newPeer s ip sh) := by
  simp only [Refines, Model.Datagram.step]
  refine accept_opened h s (fun st1 t hr ht hR => ?_) fun _ => ⟨rfl, rfl, rfl, rfl, nofun⟩
  rw [run_one]
  exact accept_getters hR (upd_same _ _ _) ht hr rfl

theorem refines_get {w : World} {st : S} (h : R w st) (s : Nat) : Refines w st (.get s) := by
  simp only [Refines, Model.Datagram.step]
  refine accept_live h s fun m hl => accept_peer h fun hk => ?_
  obtain ⟨_, hw, _, t, ht, hr⟩ := h.ofLive hl
  rw [run_one]
  exact accept_getters h hw ht hr hk

theorem accept_setter_failed {w : World} {st : S} (h : R w st) {s : Nat} {m : MSock} (hl : live w s = some m)
    (hk : m.kind = .peer) (which : Setter) (err : Errc) (hne : ¬ (which = .loop ∧ err = .nil)) :
    ∃ st', Sonic.Spec.Datagram.run st [.setter s which err, .getters s (gettersOf m) m.kern] = .ok st' ∧ R w st' := by
  obtain ⟨_, hw, _, t, ht, hr⟩ := h.ofLive hl
  rw [run_two (step_setter ht which err), if_neg hne]
  exact accept_getters h hw ht hr hk

theorem accept_setter_ok {w : World} {st : S} (h : R w st) {s : Nat} {m : MSock} (hl : live w s = some m)
    (hk : m.kind = .peer) (which : Setter) {kern' : Kern} {cache' : Cache}
    (hc : GettersOk m.cache m.kern false → GettersOk cache' kern' false)
    (hl1 : which = .loop → cache'.loop = kern'.loop)
    (hl2 : m.cache.loop = m.kern.loop → cache'.loop = kern'.loop) :
    ∃ st', Sonic.Spec.Datagram.run st
        [.setter s which .nil, .getters s (gettersOf { m with kern := kern', cache := cache' }) kern'] = .ok st'
      ∧ R (Model.Datagram.put w s { m with kern := kern', cache := cache' }) st' := by
  obtain ⟨_, _, _, t, ht, hr⟩ := h.ofLive hl
  obtain ⟨g1, g2, g3, g4, g5⟩ := hr.getters hk
  obtain ⟨c1, c2, c3, c4, _⟩ := hc ⟨g1, g2, g3, g4, nofun⟩
  rw [run_two (step_setter ht which .nil)]
  by_cases hcase : which = .loop
  · rw [if_pos ⟨hcase, rfl⟩]
    refine accept_getters_stale (m' := { m with kern := kern', cache := cache' }) (setSock_socks _ _ _)
      ⟨c1, c2, c3, c4, fun _ => hl1 hcase⟩ ?_
    rw [setSock_setSock]
    exact h.putSock s (hr.setOpts kern' cache' true (fun _ => ⟨c1, c2, c3, c4, fun _ => hl1 hcase⟩))
  · rw [if_neg (fun hx => hcase hx.1)]
    refine accept_getters_stale (m' := { m with kern := kern', cache := cache' }) ht ⟨c1, c2, c3, c4, fun hx => hl2 (g5 hx)⟩ ?_
    exact h.putSock s (hr.setOpts kern' cache' t.loopSet (fun _ => ⟨c1, c2, c3, c4, fun hx => hl2 (g5 hx)⟩))

theorem refines_setLoop {w : World} {st : S} (h : R w st) (s : Nat) (v : Bool) : Refines w st (.setLoop s v) := by
  simp only [Refines, Model.Datagram.step]
  refine accept_live h s fun m hl => accept_peer h fun hk => ?_
  by_cases hb : m.broken = true
  · rw [if_pos hb]; exact accept_setter_failed h hl hk .loop .notsock (by simp)
  · rw [if_neg hb]; exact accept_setter_ok h hl hk .loop (fun ⟨g1, g2, g3, g4, _⟩ => ⟨g1, g2, g3, g4, nofun⟩)
      (fun _ => rfl) (fun _ => rfl)

theorem refines_setTTL {w : World} {st : S} (h : R w st) (s : Nat) (v : Nat) : Refines w st (.setTTL s v) := by
  simp only [Refines, Model.Datagram.step]
  refine accept_live h s fun m hl => accept_peer h fun hk => ?_
  by_cases hb : m.broken = true
  · rw [if_pos hb]; exact accept_setter_failed h hl hk .ttl .notsock (by simp)
  · rw [if_neg hb]
    exact accept_setter_ok h hl hk .ttl (fun ⟨_, g2, g3, g4, g5⟩ => ⟨rfl, g2, g3, g4, g5⟩) nofun id

theorem refines_setOut {w : World} {st : S} (h : R w st) (s : Nat) (i : IfName) : Refines w st (.setOut s i) := by
  simp only [Refines, Model.Datagram.step]
  refine accept_live h s fun m hl => accept_peer h fun hk => ?_
  cases i with
  | eth0 =>
    dsimp only
    by_cases hb : m.broken = true
    · rw [if_pos hb]; exact accept_setter_failed h hl hk .out .nil (by simp)
    · rw [if_neg hb]
      exact accept_setter_ok h hl hk .out (fun ⟨g1, g2, _, _, g5⟩ => ⟨g1, g2, rfl, rfl, g5⟩) nofun id
  | lo => exact accept_setter_failed h hl hk .out .other (by simp)
  | unknown => exact accept_setter_failed h hl hk .out .other (by simp)

theorem refines_membCall {w : World} {st : S} (h : R w st) (s : Nat) (op : Option MOp) (ifok : Bool) :
    ∃ st', Sonic.Spec.Datagram.run st (membCall w s op ifok).2 = .ok st' ∧ R (membCall w s op ifok).1 st' := by
  unfold membCall
  refine accept_live h s fun m hl => accept_peer h fun _ => ?_
  obtain ⟨_, hw, _, t, ht, hr⟩ := h.ofLive hl
  cases op with
  | none => exact ⟨st, by rw [run_one, step_memb_none ht], h⟩
  | some op =>
    dsimp only
    -- a call that fails before it reaches the kernel's membership code
    have hfail : ∀ e : Errc, (e == Errc.nil) = false →
        ∃ st', Sonic.Spec.Datagram.run st [.memb s (some op) e] = .ok st' ∧ R w st' := by
      intro e he
      refine ⟨_, by rw [run_one, step_memb_some ht], ?_⟩
      rw [he]
      exact h.setSpec hw (hr.setMemb m.membs _ (hr.memb.fail op))
    by_cases hi : ifok = true
    · rw [if_neg (by simp [hi])]
      by_cases hb : m.broken = true
      · rw [if_pos hb]; exact hfail .notsock (by decide)
      · rw [if_neg hb]
        exact ⟨_, by rw [run_one, step_memb_some ht], h.putSock s (hr.setMemb _ _ (kMemb_refines hr.memb op))⟩
    · rw [if_pos (by simpa using hi)]; exact hfail .other (by decide)

theorem refines_brk {w : World} {st : S} (h : R w st) (s : Nat) : Refines w st (.brk s) := by
  simp only [Refines, Model.Datagram.step]
  refine accept_live h s fun m hl => ?_
  obtain ⟨_, _, _, t, ht, hr⟩ := h.ofLive hl
  split
  · exact accept_skipped h
  · exact ⟨st, rfl, h.setModel ht (hr.setBroken true)⟩

theorem refines_mend {w : World} {st : S} (h : R w st) (s : Nat) : Refines w st (.mend s) := by
  simp only [Refines, Model.Datagram.step]
  refine accept_live h s fun m hl => ?_
  obtain ⟨_, _, _, t, ht, hr⟩ := h.ofLive hl
  split
  · exact ⟨st, rfl, h.setModel ht (hr.setBroken false)⟩
  · exact accept_skipped h

theorem refines_close {w : World} {st : S} (h : R w st) (s : Nat) : Refines w st (.close s) := by
  simp only [Refines, Model.Datagram.step]
  refine accept_live h s fun m hl => ?_
  obtain ⟨_, _, _, t, ht, hr⟩ := h.ofLive hl
  split
  · exact accept_skipped h
  · refine ⟨_, by rw [run_one, step_closed ht], h.putSock s ?_⟩
    exact { hr with isOpen := rfl, out := rfl, pend := rfl, closedRead := fun _ => rfl, cands := nofun, readLen := nofun }

theorem refines_setBuf {w : World} {st : S} (h : R w st) (s len : Nat) (hlen : 0 < len) : Refines w st (.setBuf s len) := by
  simp only [Refines, Model.Datagram.step]
  refine accept_live h s fun m hl => accept_peer h fun _ => ?_
  obtain ⟨_, _, hcl, t, ht, hr⟩ := h.ofLive hl
  refine ⟨_, by rw [run_one, step_setBuf ht], ?_⟩
  rw [hr.pend]
  refine h.bump.putSock s (hr.designate hcl hlen _ (fun x hx => ?_))
  obtain ⟨_, _, rfl⟩ := Option.map_eq_some_iff.1 hx
  rfl

theorem lookup_snoc (L : List (Nat × Nat)) (cur len : Nat) (val : List UInt8) (f : Nat × Nat → List UInt8)
    (hL : ∀ c ∈ L, c.1 ≠ cur) :
    ((L ++ [(cur, len)]).map (fun c => (c.1, if c.1 == cur then val else f c))).lookup cur = some val := by
  induction L with
  | nil => simp
  | cons c L ih =>
    have hc : c.1 ≠ cur := hL c (by simp)
    have hc' : (cur == c.1) = false := by simpa using fun h => hc h.symm
    simp only [List.cons_append, List.map_cons, List.lookup, hc']
    exact ih (fun x hx => hL x (by simp [hx]))

/-- `recv` shows the harness the last four designated buffers. -/
theorem lookup_shown (cands pre : List (Nat × Nat)) (cur len : Nat) (val : List UInt8) (f : Nat × Nat → List UInt8)
    (hc : cands = pre ++ [(cur, len)]) (hinc : cands.Pairwise (fun a b => a.1 < b.1)) :
    ((cands.drop (cands.length - 4)).map (fun c => (c.1, if c.1 == cur then val else f c))).lookup cur = some val := by
  subst hc
  have hk : (pre ++ [(cur, len)]).length - 4 ≤ pre.length := by simp
  rw [List.drop_append_of_le_length hk]
  apply lookup_snoc
  intro c hcm
  have hm : c ∈ pre := List.mem_of_mem_drop hcm
  rw [List.pairwise_append] at hinc
  have := hinc.2.2 c hm (cur, len) (by simp)
  exact Nat.ne_of_lt this

theorem min_eq_zero_iff_nil {l : List UInt8} {len : Nat} (hlen : 0 < len) : min l.length len = 0 ↔ l = [] := by
  constructor
  · intro h
    have : l.length = 0 := by omega
    exact List.eq_nil_of_length_eq_zero this
  · intro h; subst h; simp

theorem recv_nil {s : Nat} {m : MSock} {cur len : Nat} (hq : m.rxq = []) : recv s m cur len = none := by
  unfold recv; rw [hq]

theorem recv_cons {s : Nat} {m : MSock} {cur len : Nat} {d : Dgram} {q : List Dgram} (hq : m.rxq = d :: q) :
    ∃ err src, recv s m cur len = some ({ m with rxq := q, read := none, cands := [] },
        .done s err (min d.data.length len) src ((m.cands.drop (m.cands.length - 4)).map fun c =>
          (c.1, if c.1 == cur then d.data.take (min d.data.length len) else prefill c.1 (min (min d.data.length len) c.2))))
      ∧ ((min d.data.length len = 0 ∧ (err = .nil ∨ err = .eof))
          ∨ (min d.data.length len ≠ 0 ∧ err = .nil ∧ src = some d.src)) := by
  unfold recv
  rw [hq]
  dsimp only
  by_cases hn : min d.data.length len = 0
  · rw [if_pos (beq_iff_eq.2 hn), hn]
    by_cases hk : (m.kind == Kind.raw) = true
    · rw [if_pos hk]; exact ⟨_, _, rfl, .inl ⟨rfl, .inl rfl⟩⟩
    · rw [if_neg hk]; exact ⟨_, _, rfl, .inl ⟨rfl, .inr rfl⟩⟩
  · rw [if_neg (mt beq_iff_eq.1 hn)]
    exact ⟨_, _, rfl, .inr ⟨hn, rfl, rfl⟩⟩

theorem recv_none {s : Nat} {m : MSock} {cur len : Nat} (h : recv s m cur len = none) : m.rxq = [] := by
  cases hq : m.rxq with
  | nil => rfl
  | cons d q =>
    obtain ⟨_, _, he, _⟩ := recv_cons (s := s) (cur := cur) (len := len) hq
    rw [he] at h; cases h

theorem accept_recv {st : S} {s : Nat} {m : MSock} {t : Sock} {cur len : Nat} (hlen : 0 < len)
    (ht : st.socks s = some t) (hout : t.out = m.rxq) (hpend : t.pend = some (cur, len))
    (hc : ∃ pre, m.cands = pre ++ [(cur, len)]) (hinc : m.cands.Pairwise (fun a b => a.1 < b.1))
    {m' : MSock} {ev : Ev} (hrecv : recv s m cur len = some (m', ev)) :
    ∃ q, m' = { m with rxq := q, read := none, cands := [] } ∧
      Sonic.Spec.Datagram.step st ev = .ok (setSock st s { t with out := q, pend := none }) := by
  cases hq : m.rxq with
  | nil => rw [recv_nil hq] at hrecv; cases hrecv
  | cons d q =>
    obtain ⟨err, src, he, hcase⟩ := recv_cons (s := s) (cur := cur) (len := len) hq
    rw [he] at hrecv
    cases hrecv
    refine ⟨q, rfl, ?_⟩
    rw [hq] at hout
    rcases hcase with ⟨hn, rfl | rfl⟩ | ⟨hn, rfl, rfl⟩
    · have hd : d.data = [] := (min_eq_zero_iff_nil hlen).1 hn
      rw [hn]
      simp only [Sonic.Spec.Datagram.step, ht, hpend, hout, takeFirst, hd, bne_self_eq_false, Bool.false_eq_true, if_false,
        beq_self_eq_true, if_true]
    · have hd : d.data = [] := (min_eq_zero_iff_nil hlen).1 hn
      rw [hn]
      simp only [Sonic.Spec.Datagram.step, ht, hpend, hout, takeFirst, hd, (by decide : (Errc.eof != Errc.nil) = true), if_true,
        beq_self_eq_true, Bool.and_self]
    · obtain ⟨pre, hpre⟩ := hc
      have hlook := lookup_shown m.cands pre cur len (d.data.take (min d.data.length len))
        (fun c => prefill c.1 (min (min d.data.length len) c.2)) hpre hinc
      have hn' : (min d.data.length len == 0) = false := beq_false_of_ne hn
      have hd' : (d.data != []) = true := bne_iff_ne.2 (fun h0 => hn ((min_eq_zero_iff_nil hlen).2 h0))
      simp only [Sonic.Spec.Datagram.step, ht, hpend, hout, takeFirst, fits, hlook, bne_self_eq_false, Bool.false_eq_true, if_false,
        beq_self_eq_true, if_true, hn', hd', Bool.and_self]

theorem refines_read {w : World} {st : S} (h : R w st) (s len : Nat) (hlen : 0 < len) : Refines w st (.read s len) := by
  simp only [Refines, Model.Datagram.step]
  refine accept_live h s fun m hl => ?_
  obtain ⟨_, _, hcl, t, ht, hr⟩ := h.ofLive hl
  by_cases hc : (m.broken || m.read.isSome) = true
  · rw [if_pos hc]; exact accept_skipped h
  · rw [if_neg hc]
    have hrd : m.read = none := by
      cases hx : m.read with
      | none => rfl
      | some x => simp [hx] at hc
    have hout : t.out = m.rxq := by rw [hr.out, hcl]; rfl
    have h1 := step_readStart ht (hr.pend.trans hrd) w.nbuf len
    have ht1 := setSock_socks st s { t with pend := some (w.nbuf, len) }
    cases hrecv : recv s { m with cands := m.cands ++ [(w.nbuf, len)] } w.nbuf len with
    | some x =>
      obtain ⟨m', ev⟩ := x
      obtain ⟨q, rfl, hstep⟩ := accept_recv (m := { m with cands := m.cands ++ [(w.nbuf, len)] }) hlen ht1
        hout rfl ⟨m.cands, rfl⟩ (pairwise_snoc hr.candsInc hr.candsLt len) hrecv
      refine ⟨_, (run_two h1).trans hstep, ?_⟩
      rw [setSock_setSock]
      exact h.bump.putSock s (hr.afterRecv hcl q)
    | none =>
      have hq := recv_none hrecv
      have hto : t.out = [] := hout.trans hq
      dsimp only
      split
      · refine ⟨_, by rw [run_two h1, step_readNone ht1 hto, setSock_setSock], ?_⟩
        have e : ({ m with cands := [] } : MSock) = { m with read := none, cands := [] } := by rw [hrd]
        rw [e]
        exact h.bump.putSock s (hr.setRead hcl none [] nofun nofun List.Pairwise.nil)
      · refine ⟨_, by rw [run_two h1, step_readPending ht1 hto], ?_⟩
        exact h.bump.putSock s (hr.designate hcl hlen _ (fun x hx => (Option.some.inj hx).symm))

def Drained (w : World) (s : Nat) : Prop := ∀ m, live w s = some m → m.read.isSome = true → m.rxq = []

theorem live_put_other {w : World} {s s' : Nat} (m : MSock) (hne : s' ≠ s) : live (Model.Datagram.put w s m) s' = live w s' := by
  simp [live, Model.Datagram.put, upd, hne]

theorem live_put_same {w : World} {s : Nat} (m : MSock) (hs : s < maxSock) :
    live (Model.Datagram.put w s m) s = if m.closed then none else some m := by
  simp [live, Model.Datagram.put, upd, hs]

theorem drained_put {w : World} {s : Nat} {m' : MSock} (hs : s < maxSock) (hrd : m'.read = none) :
    Drained (Model.Datagram.put w s m') s ∧ ∀ s', Drained w s' → Drained (Model.Datagram.put w s m') s' := by
  have hself : Drained (Model.Datagram.put w s m') s := by
    intro m2 hm2 hx
    rw [live_put_same _ hs] at hm2
    split at hm2
    · cases hm2
    · cases hm2; rw [hrd] at hx; cases hx
  refine ⟨hself, fun s' hd => ?_⟩
  by_cases hne : s' = s
  · subst hne; exact hself
  · intro m2 hm2 hx
    rw [live_put_other _ hne] at hm2
    exact hd m2 hm2 hx

theorem accept_pollOne {w : World} {st : S} (h : R w st) (s : Nat) :
    ∃ st', Sonic.Spec.Datagram.run st (pollOne w s).2 = .ok st' ∧ R (pollOne w s).1 st' ∧ Drained (pollOne w s).1 s
      ∧ (∀ s', Drained w s' → Drained (pollOne w s).1 s') := by
  unfold pollOne
  cases hl : live w s with
  | none => exact ⟨st, rfl, h, fun m hm => (by rw [hl] at hm; cases hm), fun _ hd => hd⟩
  | some m =>
    dsimp only
    obtain ⟨hs, _, hcl, t, ht, hr⟩ := h.ofLive hl
    cases hrd : m.read with
    | none =>
      refine ⟨st, rfl, h, fun m' hm' hx => ?_, fun _ hd => hd⟩
      rw [hl] at hm'; cases hm'; rw [hrd] at hx; cases hx
    | some x =>
      obtain ⟨cur, len⟩ := x
      dsimp only
      cases hrecv : recv s m cur len with
      | none =>
        refine ⟨st, rfl, h, fun m' hm' _ => ?_, fun _ hd => hd⟩
        rw [hl] at hm'; cases hm'; exact recv_none hrecv
      | some y =>
        obtain ⟨m', ev⟩ := y
        obtain ⟨q, rfl, hstep⟩ := accept_recv (hr.readLen cur len hrd) ht (by rw [hr.out, hcl]; rfl)
          (hr.pend.trans hrd) (hr.cands cur len hrd) hr.candsInc hrecv
        obtain ⟨hd1, hd2⟩ := drained_put (w := w) (m' := { m with rxq := q, read := none, cands := [] }) hs rfl
        exact ⟨_, run_one.trans hstep, h.putSock s (hr.afterRecv hcl q), hd1, hd2⟩

theorem accept_pollAll {w : World} {st : S} (h : R w st) (L : List Nat) :
    ∃ st', Sonic.Spec.Datagram.run st (pollAll w L).2 = .ok st' ∧ R (pollAll w L).1 st'
      ∧ (∀ s ∈ L, Drained (pollAll w L).1 s) ∧ (∀ s', Drained w s' → Drained (pollAll w L).1 s') := by
  induction L generalizing w st with
  | nil => exact ⟨st, rfl, h, nofun, fun _ hd => hd⟩
  | cons s r ih =>
    obtain ⟨st1, hrun1, hR1, hd1, hp1⟩ := accept_pollOne h s
    obtain ⟨st2, hrun2, hR2, hd2, hp2⟩ := ih hR1
    simp only [pollAll]
    refine ⟨st2, ?_, hR2, ?_, fun s' hd => hp2 s' (hp1 s' hd)⟩
    · rw [run_append, hrun1]; exact hrun2
    · intro s' hs'
      rcases List.mem_cons.1 hs' with rfl | hs'
      · exact hp2 _ hd1
      · exact hd2 s' hs'

theorem step_polled {w' : World} {st' : S} (hR : R w' st') (hd : ∀ s ∈ List.range maxSock, Drained w' s) :
    Sonic.Spec.Datagram.step st' .polled = .ok st' := by
  simp only [Sonic.Spec.Datagram.step]
  rw [if_neg]
  rw [Bool.not_eq_true, List.any_eq_false]
  intro r hr
  cases hs : st'.socks r with
  | none => simp
  | some t =>
    obtain ⟨m, hw, hsr⟩ := hR.ofSpec hs
    dsimp only
    cases hcl : m.closed with
    | true => simp [hsr.isOpen, hcl]
    | false =>
      cases hp : t.pend with
      | none => simp
      | some x =>
        have hq := hd r hr m (live_eq_some.2 ⟨List.mem_range.1 hr, hw, hcl⟩) (by rw [← hsr.pend, hp]; rfl)
        simp [hsr.out, hcl, hq]

theorem step_poll_eq (w : World) :
    Model.Datagram.step w .poll = ((pollAll w (List.range maxSock)).1, (pollAll w (List.range maxSock)).2 ++ [.polled]) := rfl

theorem refines_poll {w : World} {st : S} (h : R w st) : Refines w st .poll := by
  obtain ⟨st', hrun, hR, hd, _⟩ := accept_pollAll h (List.range maxSock)
  unfold Refines
  rw [step_poll_eq]
  -- reduce `(a, b).1` first: left to the unifier, it unfolds `pollAll` over the whole range
  dsimp only
  refine ⟨st', ?_, hR⟩
  rw [run_append, hrun]
  exact run_one.trans (step_polled hR hd)

theorem R.enq {w : World} {st : S} (h : R w st) {arrived : List Nat} {d : Dgram}
    (harr : ∀ r ∈ arrived, ∀ m, w.socks r = some m → m.closed = false) :
    R { w with socks := Model.Datagram.enqueue w.socks arrived d } { st with socks := deliver st.socks arrived d } := by
  refine ⟨h.host, fun i => ?_, h.notes⟩
  simp only [Model.Datagram.enqueue, deliver]
  cases hw : w.socks i with
  | none => rw [(h.none_iff i).1 hw]; trivial
  | some m =>
    obtain ⟨t, ht, hr⟩ := h.ofModel hw
    rw [ht]
    simp only [Option.map, OptR]
    split
    · rename_i hc
      have hcl := harr i (by simpa using hc) m hw
      have hout : t.out = m.rxq := by rw [hr.out, hcl]; rfl
      rw [hout]
      exact hr.setQueue hcl _
    · exact hr

theorem contains_filter_range {p : Nat → Bool} {r : Nat} : ((List.range maxSock).filter p).contains r = (decide (r < maxSock) && p r) := by
  rw [Bool.eq_iff_iff]
  simp [List.mem_filter, List.mem_range]

/-- The model's loop-back delivery decision agrees with the monitor's verdict for every socket. -/
theorem verdict_none {w : World} {st : S} (h : R w st) (via : Bool) (dst src : Addr) (r : Nat) (hr : r < maxSock) :
    mcastVerdict st via dst src ((List.range maxSock).filter (kDeliver w via dst src.ip)) r = none := by
  unfold mcastVerdict
  rw [contains_filter_range]
  cases hs : st.socks r with
  | none => simp [kDeliver, (h.none_iff r).2 hs]
  | some t =>
    obtain ⟨m, hw, hsr⟩ := h.ofSpec hs
    simp only [hr, decide_true, Bool.true_and]
    by_cases hk : kDeliver w via dst src.ip r = true
    · have hk' := hk
      simp only [kDeliver, hw, Bool.and_eq_true, Bool.not_eq_true', Bool.or_eq_true] at hk'
      obtain ⟨⟨⟨⟨hcl, hvia⟩, hport⟩, hip⟩, hallow⟩ := hk'
      have hj : joinedFor t dst src.ip = true := by
        simp only [joinedFor, hsr.isOpen, hcl, hsr.kern, Bool.not_false, Bool.true_and, Bool.and_eq_true, Bool.or_eq_true]
        exact ⟨⟨hport, hip⟩, kAllow_sound hsr.memb _ _ hallow⟩
      simp [hk, hj]
    · have hk0 : kDeliver w via dst src.ip r = false := by simpa using hk
      simp only [hk0, Bool.false_and, Bool.false_eq_true, if_false, Bool.not_false, Bool.true_and]
      by_cases hc : (joinedFor t dst src.ip && via && settled t dst.ip) = true
      · exfalso
        simp only [Bool.and_eq_true] at hc
        obtain ⟨⟨hj, hvia⟩, hset⟩ := hc
        simp only [joinedFor, Bool.and_eq_true, Bool.or_eq_true] at hj
        obtain ⟨⟨⟨hopen, hport⟩, hip⟩, hpass⟩ := hj
        have hcl : m.closed = false := by
          have := hsr.isOpen; rw [hopen] at this; simpa using this.symm
        have hset' : t.memb.unsure dst.ip = false := by simpa [settled] using hset
        have hallow : kAllow m.membs dst.ip src.ip = true := by rw [kAllow_complete hsr.memb _ _ hset']; exact hpass
        apply hk
        simp only [kDeliver, hw, hcl, hvia, Bool.not_false, Bool.true_and, Bool.and_eq_true, Bool.or_eq_true]
        rw [← hsr.kern]
        exact ⟨⟨hport, hip⟩, hallow⟩
      · simp only [hc, Bool.false_eq_true, if_false]

theorem accept_sent_mcast {w : World} {st : S} (h : R w st) {s : Nat} {tx : MSock} (hl : live w s = some tx)
    (dst src : Addr) (data : List UInt8) (hm : isMulticast dst.ip = true) :
    Sonic.Spec.Datagram.step st (.sent s dst data .nil data.length src (mcArrived w tx dst src.ip))
      = .ok { st with socks := deliver st.socks (mcArrived w tx dst src.ip) { src := src, dst := dst, data := data } } := by
  obtain ⟨_, _, _, t, ht, hr⟩ := h.ofLive hl
  have hnone : (List.range maxSock).findSome? (mcastVerdict st (viaMcastIf st.host t.kern.name.ip t.kern.mcIf && t.kern.loop) dst src
      (mcArrived w tx dst src.ip)) = none := by
    rw [List.findSome?_eq_none_iff]
    intro r hrm
    rw [h.host, hr.kern]
    exact verdict_none h _ dst src r (List.mem_range.1 hrm)
  simp only [Sonic.Spec.Datagram.step, ht, Bool.false_eq_true, if_false, bne_self_eq_false, hm, if_true, hnone]

theorem pick_mem {l : List Nat} {r : Nat} {rs : List Nat} (hl : l = r :: rs) (pick : Nat) :
    ∃ x, (if (r :: rs).contains pick then [pick] else [r]) = [x] ∧ x ∈ l := by
  by_cases hc : (r :: rs).contains pick = true
  · exact ⟨pick, by rw [if_pos hc], by rw [hl]; simpa using hc⟩
  · exact ⟨r, by rw [if_neg hc], by rw [hl]; simp⟩

theorem ucArrived_cases (w : World) (dst : Addr) (pick : Nat) :
    (ucArrived w dst pick = [] ∧ ∀ r, r < maxSock → ucastCand w dst true r = false ∧ ucastCand w dst false r = false)
    ∨ ∃ x, ucArrived w dst pick = [x] ∧ (ucastCand w dst true x = true ∨ ucastCand w dst false x = true) := by
  unfold ucArrived
  cases hA : (List.range maxSock).filter (ucastCand w dst true) with
  | cons r rs =>
    right
    obtain ⟨x, hx, hmem⟩ := pick_mem hA pick
    rw [List.mem_filter, List.mem_range] at hmem
    exact ⟨x, hx, Or.inl hmem.2⟩
  | nil =>
    cases hB : (List.range maxSock).filter (ucastCand w dst false) with
    | cons r rs =>
      right
      obtain ⟨x, hx, hmem⟩ := pick_mem hB pick
      rw [List.mem_filter, List.mem_range] at hmem
      exact ⟨x, hx, Or.inr hmem.2⟩
    | nil =>
      left
      refine ⟨rfl, fun r hr => ?_⟩
      rw [List.filter_eq_nil_iff] at hA hB
      have ha := hA r (List.mem_range.2 hr)
      have hb := hB r (List.mem_range.2 hr)
      exact ⟨by simpa using ha, by simpa using hb⟩

theorem ucastCand_some {w : World} {dst : Addr} {e : Bool} {r : Nat} (h : ucastCand w dst e r = true) :
    ∃ m, w.socks r = some m ∧ m.closed = false := by
  unfold ucastCand at h
  cases hw : w.socks r with
  | none => rw [hw] at h; cases h
  | some m =>
    rw [hw] at h
    simp only [Bool.and_eq_true, Bool.not_eq_true'] at h
    exact ⟨m, rfl, h.1.1⟩

theorem SockR.ucastMatch_eq {w : World} {r n : Nat} {m : MSock} {t : Sock} (hr : SockR n m t) (hw : w.socks r = some m)
    (dst : Addr) : ucastMatch t dst = (ucastCand w dst true r || ucastCand w dst false r) := by
  simp only [ucastMatch, ucastCand, hw, hr.isOpen, hr.kern, if_true, Bool.false_eq_true, if_false, Bool.and_or_distrib_left]

theorem accept_sent_ucast {w : World} {st : S} (h : R w st) {s : Nat} {tx : MSock} (hl : live w s = some tx)
    (dst src : Addr) (data : List UInt8) (pick : Nat) (hm : isMulticast dst.ip = false) :
    Sonic.Spec.Datagram.step st (.sent s dst data .nil data.length src (ucArrived w dst pick))
      = .ok { st with socks := deliver st.socks (ucArrived w dst pick) { src := src, dst := dst, data := data } }
    ∧ ∀ r ∈ ucArrived w dst pick, ∀ m, w.socks r = some m → m.closed = false := by
  obtain ⟨_, _, _, _, ht, _⟩ := h.ofLive hl
  rcases ucArrived_cases w dst pick with ⟨hnil, hno⟩ | ⟨x, hx, hcand⟩
  · rw [hnil]
    refine ⟨?_, nofun⟩
    have : deliver st.socks [] { src := src, dst := dst, data := data } = st.socks := by
      funext r; simp [deliver]
    rw [this]
    simp only [Sonic.Spec.Datagram.step, ht, Bool.false_eq_true, if_false, bne_self_eq_false, hm]
    rw [if_neg]
    rw [Bool.not_eq_true, List.any_eq_false]
    intro r hrm
    cases hsr : st.socks r with
    | none => simp
    | some t' =>
      obtain ⟨m', hwr, hsr'⟩ := h.ofSpec hsr
      obtain ⟨h1, h2⟩ := hno r (List.mem_range.1 hrm)
      simp [hsr'.ucastMatch_eq hwr, h1, h2]
  · rw [hx]
    obtain ⟨m', hwx, hclx⟩ : ∃ m', w.socks x = some m' ∧ m'.closed = false := by
      rcases hcand with hc | hc <;> exact ucastCand_some hc
    obtain ⟨t', hsx, hsr'⟩ := h.ofModel hwx
    have hmatch : ucastMatch t' dst = true := by
      rw [hsr'.ucastMatch_eq hwx, Bool.or_eq_true]; exact hcand
    refine ⟨?_, fun r hr m2 hm2 => ?_⟩
    · simp only [Sonic.Spec.Datagram.step, ht, Bool.false_eq_true, if_false, bne_self_eq_false, hm, hsx, hmatch, if_true]
    · cases List.mem_singleton.1 hr
      rw [hwx] at hm2; cases hm2; exact hclx

theorem mcArrived_open {w : World} {tx : MSock} {dst : Addr} {srcIp : Ip} :
    ∀ r ∈ mcArrived w tx dst srcIp, ∀ m, w.socks r = some m → m.closed = false := by
  intro r hr m hm
  unfold mcArrived at hr
  rw [List.mem_filter] at hr
  have := hr.2
  simp only [kDeliver, hm, Bool.and_eq_true, Bool.not_eq_true'] at this
  exact this.1.1.1.1

/-- The model's send errors are the kernel's (EMSGSIZE, EINVAL): never a refusal made by the library. -/
theorem sendErr_ne_refused {k : Kern} {dst : Addr} {data : List UInt8} : sendErr k dst data ≠ .refused := by
  unfold sendErr
  repeat' split
  all_goals nofun

theorem step_sent_failed {st : S} {s : Nat} {t : Sock} (ht : st.socks s = some t) {dst : Addr} {data : List UInt8} {err : Errc}
    {n : Nat} {src : Addr} (he : err ≠ .nil) (hr : err ≠ .refused) :
    Sonic.Spec.Datagram.step st (.sent s dst data err n src []) = .ok st := by
  simp only [Sonic.Spec.Datagram.step, ht, bne_iff_ne.2 he, if_true, beq_eq_false_iff_ne.2 hr, Bool.false_eq_true, if_false,
    List.isEmpty_nil]

theorem accept_sendTo {w : World} {st : S} (h : R w st) {s : Nat} {tx : MSock} (hl : live w s = some tx)
    (dsta : Addr) (data : List UInt8) (pick : Nat) :
    ∃ st', Sonic.Spec.Datagram.run st (sendTo w s tx dsta data pick).2 = .ok st' ∧ R (sendTo w s tx dsta data pick).1 st' := by
  obtain ⟨_, _, _, _, ht, _⟩ := h.ofLive hl
  unfold sendTo
  dsimp only
  by_cases herr : sendErr tx.kern dsta data = .nil
  · simp only [herr, bne_self_eq_false, Bool.false_eq_true, if_false]
    by_cases hm : isMulticast dsta.ip = true
    · simp only [hm, if_true]
      exact ⟨_, run_one.trans (accept_sent_mcast h hl dsta _ data hm), h.enq mcArrived_open⟩
    · have hm' : isMulticast dsta.ip = false := by simpa using hm
      simp only [hm', Bool.false_eq_true, if_false]
      obtain ⟨hstep, hopen⟩ := accept_sent_ucast h hl dsta { ip := srcIp w.host tx.kern dsta, port := tx.kern.name.port } data pick hm'
      exact ⟨_, run_one.trans hstep, h.enq hopen⟩
  · rw [if_pos (bne_iff_ne.2 herr)]
    exact ⟨st, run_one.trans (step_sent_failed ht herr sendErr_ne_refused), h⟩

theorem refines_send {w : World} {st : S} (h : R w st) (s : Nat) (dst : Dst) (data : List UInt8) (pick : Nat) :
    Refines w st (.send s dst data pick) := by
  simp only [Refines, Model.Datagram.step]
  refine accept_live h s fun tx hl => ?_
  by_cases hb : tx.broken = true
  · rw [if_pos hb]; exact accept_skipped h
  · rw [if_neg hb]
    split
    · exact accept_skipped h
    · exact accept_sendTo h hl _ data pick

theorem step_refines {w : World} {st : S} (h : R w st) (op : Op) (hok : OpOk op = true) : Refines w st op := by
  cases op with
  | newPc s f => exact refines_newPc h s f
  | newPeer s ip sh => exact refines_newPeer h s ip sh
  | newRaw s f => exact refines_newRaw h s f
  | get s => exact refines_get h s
  | setLoop s v => exact refines_setLoop h s v
  | setTTL s v => exact refines_setTTL h s v
  | setOut s i => exact refines_setOut h s i
  | join s g on src => exact refines_membCall h s _ (ifaceOk on)
  | leave s g src => exact refines_membCall h s _ true
  | block s g src => exact refines_membCall h s _ true
  | unblock s g src => exact refines_membCall h s _ true
  | brk s => exact refines_brk h s
  | mend s => exact refines_mend h s
  | send s dst data pick => exact refines_send h s dst data pick
  | read s len => exact refines_read h s len (by simpa [OpOk] using hok)
  | setBuf s len => exact refines_setBuf h s len (by simpa [OpOk] using hok)
  | poll => exact refines_poll h
  | close s => exact refines_close h s

theorem run_refines {w : World} {st : S} (h : R w st) (ops : List Op) (hok : ∀ op ∈ ops, OpOk op = true) :
    ∃ st', Sonic.Spec.Datagram.run st (Model.Datagram.run w ops) = .ok st' ∧ R (runW w ops) st' := by
  induction ops generalizing w st with
  | nil => exact ⟨st, rfl, h⟩
  | cons op r ih =>
    obtain ⟨st1, hrun1, hR1⟩ := step_refines h op (hok op (by simp))
    obtain ⟨st2, hrun2, hR2⟩ := ih hR1 (fun o ho => hok o (by simp [ho]))
    refine ⟨st2, ?_, hR2⟩
    simp only [Model.Datagram.run]
    rw [run_append, hrun1]
    exact hrun2

end Sonic.Lemmas.Datagram
