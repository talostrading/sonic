/-
Helper lemmas for C11: bounds of `imin`, arithmetic modulo an arbitrary positive `size` (omega does not take `%` by a
variable) and the lists of ring cells of `Sonic.Spec.Mirrored`.
-/
import Sonic.Spec.Mirrored
import Sonic.Lemmas.Cells

namespace Sonic.Spec.Mirrored
open Sonic.Spec.Bip (cells imin imin_eq mem_cells cells_append drop_cells cells_nonpos length_cells)

theorem imin_nonneg {a b : Int} (ha : 0 ≤ a) (hb : 0 ≤ b) : 0 ≤ imin a b := by
  rw [imin_eq]; split <;> omega

theorem imin_le_right (a b : Int) : imin a b ≤ b := by rw [imin_eq]; split <;> omega
theorem imin_le_left (a b : Int) : imin a b ≤ a := by rw [imin_eq]; split <;> omega

theorem emod_ne_of_lt {size a d : Int} (h1 : 0 < d) (h2 : d < size) : (a + d) % size ≠ a % size := by
  intro h
  rw [Int.emod_eq_emod_iff_emod_sub_eq_zero] at h
  rw [show a + d - a = d by omega, Int.emod_eq_of_lt (by omega) h2] at h
  omega

theorem emod_congr_add {size a b : Int} (h : a % size = b % size) (i : Int) :
    (a + i) % size = (b + i) % size := by
  rw [← Int.emod_add_emod a, h, Int.emod_add_emod]

theorem length_ringCells (size start k : Int) : (ringCells size start k).length = k.toNat := by
  simp [ringCells]

theorem ringCells_nonpos {size start k : Int} (h : k ≤ 0) : ringCells size start k = [] := by
  simp [ringCells, cells_nonpos h]

theorem mem_ringCells {size start k c : Int} :
    c ∈ ringCells size start k ↔ ∃ i, 0 ≤ i ∧ i < k ∧ c = (start + i) % size := by
  unfold ringCells
  simp only [List.mem_map, mem_cells]
  constructor
  · rintro ⟨v, ⟨h1, h2⟩, rfl⟩
    exact ⟨v - start, by omega, by omega, by rw [show start + (v - start) = v by omega]⟩
  · rintro ⟨i, h1, h2, rfl⟩
    exact ⟨start + i, ⟨by omega, by omega⟩, rfl⟩

theorem ringCells_congr {size a b : Int} (k : Int) (h : a % size = b % size) :
    ringCells size a k = ringCells size b k := by
  unfold ringCells cells
  simp only [List.map_map]
  apply List.map_congr_left
  intro i _
  exact emod_congr_add h _

theorem ringCells_back {size t h u : Int} (k : Int) (ht : t % size = (h + u) % size) :
    ringCells size (t - u) k = ringCells size h k := by
  apply ringCells_congr
  rw [← Int.emod_sub_emod, ht, Int.emod_sub_emod]
  congr 1; omega

theorem ringCells_append {size a k j : Int} (hk : 0 ≤ k) (hj : 0 ≤ j) :
    ringCells size a k ++ ringCells size (a + k) j = ringCells size a (k + j) := by
  unfold ringCells
  rw [← List.map_append, cells_append hk hj]

theorem drop_ringCells {size a u k : Int} (hk : 0 ≤ k) (hu : k ≤ u) :
    (ringCells size a u).drop k.toNat = ringCells size (a + k) (u - k) := by
  unfold ringCells
  rw [← List.map_drop, drop_cells hk hu]

theorem ring_disjoint {size next u len lo : Int} (hl : u + len ≤ size)
    (hlo : lo % size = next % size) :
    ∀ c ∈ ringCells size (next - u) u, ∀ v ∈ cells lo len, v % size ≠ c := by
  intro c hc v hv heq
  rw [mem_ringCells] at hc
  rw [mem_cells] at hv
  obtain ⟨i, hi0, hi1, rfl⟩ := hc
  have h1 : v % size = (next + (v - lo)) % size := by
    have := emod_congr_add hlo (v - lo)
    rw [show lo + (v - lo) = v by omega] at this
    exact this
  rw [h1, show next + (v - lo) = (next - u + i) + (u - i + (v - lo)) by omega] at heq
  exact emod_ne_of_lt (by omega) (by omega) heq

end Sonic.Spec.Mirrored
