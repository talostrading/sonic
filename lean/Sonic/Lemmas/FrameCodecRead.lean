/-
The `ReadNext` / `AsyncReadNext` loop of the CodecConn model against the pure parser: the outcome of a
call depends only on the concatenation of what is buffered and what the transport still holds
(`unparsed`), never on how it is cut into segments or how large the buffer happens to be.
-/
import Sonic.Lemmas.FrameCodecFacts

namespace Sonic.Lemmas.FrameCodec
open Sonic.Spec.FrameCodec Sonic.Model.FrameCodec

theorem tr_read_nil {t : Tr} {avail : Nat} (h : t.inq = []) :
    t.read avail = (t, if t.eof then .eof else .block) := by
  simp only [Tr.read, h]
  split <;> rfl

theorem tr_read_cons (t : Tr) (avail : Nat) (ch : Bytes) (rest : List Bytes) (h : t.inq = ch :: rest)
    (hch : ch ≠ []) (hrest : ∀ c ∈ rest, c ≠ []) (ha : 0 < avail) :
    ∃ x t', t.read avail = (t', .got x) ∧ x ≠ [] ∧ x.length ≤ avail ∧ x ++ t'.inq.flatten = t.inq.flatten ∧
      (∀ c ∈ t'.inq, c ≠ []) ∧ t'.eof = t.eof ∧ t'.plan = t.plan ∧ t'.deferW = t.deferW := by
  have hpos : 0 < ch.length := List.length_pos_iff.mpr hch
  simp only [Tr.read, h]
  by_cases hm : min avail ch.length = ch.length
  · rw [if_pos hm]
    exact ⟨ch, _, rfl, hch, hm ▸ Nat.min_le_left .., rfl, hrest, rfl, rfl, rfl⟩
  · rw [if_neg hm]
    have hk1 : 0 < min avail ch.length := Nat.lt_min.mpr ⟨ha, hpos⟩
    have hk2 : min avail ch.length < ch.length := Nat.lt_of_le_of_ne (Nat.min_le_right ..) hm
    have hk3 : min avail ch.length ≤ avail := Nat.min_le_left ..
    generalize min avail ch.length = k at *
    have htl : (ch.take k).length = k := List.length_take_of_le (Nat.le_of_lt hk2)
    refine ⟨_, _, rfl, ?_, ?_, ?_, ?_, rfl, rfl, rfl⟩
    · intro hx; rw [hx] at htl; exact absurd htl (Nat.ne_of_lt hk1)
    · rw [htl]; exact hk3
    · simp only [List.flatten_cons]; rw [← List.append_assoc, List.take_append_drop]
    · intro c hc
      rcases List.mem_cons.mp hc with rfl | hc
      · intro hx
        have hdl : (ch.drop k).length = ch.length - k := List.length_drop
        rw [hx] at hdl
        exact absurd hdl (by simp only [List.length_nil]; omega)
      · exact hrest c hc

/-- Everything the transport has been given for reading that has not been returned as an item. -/
def unparsed (c : Conn) : Bytes := clean c.dec c.src ++ c.tr.inq.flatten

structure RInv (limit : Nat) (c : Conn) : Prop where
  src : SrcInv c.dec c.src
  chunks : ∀ ch ∈ c.tr.inq, ch ≠ []
  pend : c.rpend = true → c.dec.decodeReset = false ∧ c.src.data.length < c.src.cap ∧
          front limit (clean c.dec c.src) = .incomplete

def SameW (c c' : Conn) : Prop :=
  c'.dst = c.dst ∧ c'.wpend = c.wpend ∧ c'.tr.plan = c.tr.plan ∧ c'.tr.eof = c.tr.eof ∧ c'.tr.deferW = c.tr.deferW

/-- Postcondition of a completed (or suspended) read call started in `c`. -/
structure ROut (limit : Nat) (async : Bool) (c c' : Conn) (s : RStat) : Prop where
  inv : RInv limit c'
  same : SameW c c'
  item : ∀ p rest, front limit (unparsed c) = .item p rest → s = .item p ∧ unparsed c' = rest ∧ c'.rpend = false
  big : front limit (unparsed c) = .tooBig →
          s = .err .toobig ∧ unparsed c' = unparsed c ∧ c'.src.cap = c.src.cap ∧ c'.rpend = false
  inc : front limit (unparsed c) = .incomplete → unparsed c' = unparsed c ∧ c'.tr.inq = [] ∧
          (if c.tr.eof then s = .err .eof ∧ c'.rpend = false
           else if async then s = .pending ∧ c'.rpend = true else s = .err .wouldblock ∧ c'.rpend = false)

theorem sameW_refl (c : Conn) : SameW c c := ⟨rfl, rfl, rfl, rfl, rfl⟩

theorem SameW.eof {c c' : Conn} (h : SameW c c') : c'.tr.eof = c.tr.eof := h.2.2.2.1

theorem sameW_trans {a b c : Conn} (h1 : SameW a b) (h2 : SameW b c) : SameW a c := by
  obtain ⟨a1, a2, a3, a4, a5⟩ := h1
  obtain ⟨b1, b2, b3, b4, b5⟩ := h2
  exact ⟨b1.trans a1, b2.trans a2, b3.trans a3, b4.trans a4, b5.trans a5⟩

theorem transportRead_empty (async : Bool) (c : Conn) (h : c.tr.inq = []) :
    transportRead async c =
      if c.tr.eof then ({ c with rpend := false }, .done (.err .eof))
      else if async then ({ c with rpend := true }, .done .pending) else (c, .done (.err .wouldblock)) := by
  unfold transportRead
  rw [tr_read_nil h]
  cases c.tr.eof <;> cases async <;> simp

theorem rout_empty {limit : Nat} {async : Bool} {c c' : Conn} {s : RStat} (hinv' : RInv limit c')
    (hsame : SameW c c') (hun : unparsed c' = unparsed c) (hq' : c'.tr.inq = [])
    (hfU : front limit (unparsed c) = .incomplete)
    (hs : if c.tr.eof then s = .err .eof ∧ c'.rpend = false
          else if async then s = .pending ∧ c'.rpend = true else s = .err .wouldblock ∧ c'.rpend = false) :
    ROut limit async c c' s := by
  refine ⟨hinv', hsame, ?_, ?_, ?_⟩
  · intro p rest hh; rw [hfU] at hh; cases hh
  · intro hh; rw [hfU] at hh; cases hh
  · intro _; exact ⟨hun, hq', hs⟩

theorem ROut.of_same_unparsed {limit : Nat} {async : Bool} {c c1 c' : Conn} {s : RStat} (hout : ROut limit async c1 c' s)
    (hsame : SameW c c1) (hun : unparsed c1 = unparsed c)
    (hcap : front limit (unparsed c) = .tooBig → c1.src.cap = c.src.cap) : ROut limit async c c' s := by
  refine ⟨hout.inv, sameW_trans hsame hout.same, ?_, ?_, ?_⟩
  · intro p rest hh
    exact hout.item p rest (by rw [hun]; exact hh)
  · intro hh
    obtain ⟨o1, o2, o3, o4⟩ := hout.big (by rw [hun]; exact hh)
    exact ⟨o1, o2.trans hun, o3.trans (hcap hh), o4⟩
  · intro hh
    obtain ⟨o1, o2, o3⟩ := hout.inc (by rw [hun]; exact hh)
    rw [hsame.eof] at o3
    exact ⟨o1.trans hun, o2, o3⟩

/-- The transport read issued after `ErrNeedMore`, or completed by `pump`, in a state whose buffered bytes are
an incomplete frame: either nothing is queued and the call ends there, or at least one byte moves into the
buffer, and what the loop achieves from the new state it achieves for the call. -/
theorem transportRead_cases (limit : Nat) (async : Bool) (c : Conn) (hsrc : SrcInv c.dec c.src)
    (hch : ∀ ch ∈ c.tr.inq, ch ≠ []) (hres : c.dec.decodeReset = false) (hroom : c.src.data.length < c.src.cap)
    (hf : front limit (clean c.dec c.src) = .incomplete) (hrp : async = false → c.rpend = false) :
    (∃ c' s, transportRead async c = (c', .done s) ∧ ROut limit async c c' s) ∨
    (∃ c2, transportRead async c = (c2, .again) ∧ RInv limit c2 ∧ c2.rpend = false ∧
      c2.tr.inq.flatten.length < c.tr.inq.flatten.length ∧
      ∀ c' s, ROut limit async c2 c' s → ROut limit async c c' s) := by
  by_cases hq : c.tr.inq = []
  · left
    have hfU : front limit (unparsed c) = .incomplete := by
      simp only [unparsed, hq, List.flatten_nil, List.append_nil]; exact hf
    rw [transportRead_empty async c hq]
    cases he : c.tr.eof
    · cases async
      · exact ⟨c, _, rfl, rout_empty ⟨hsrc, hch, fun hh => by rw [hrp rfl] at hh; cases hh⟩
          (sameW_refl c) rfl hq hfU (by rw [he]; exact ⟨rfl, hrp rfl⟩)⟩
      · exact ⟨_, _, rfl, rout_empty ⟨hsrc, hch, fun _ => ⟨hres, hroom, hf⟩⟩
          (sameW_refl c) rfl hq hfU (by rw [he]; exact ⟨rfl, rfl⟩)⟩
    · exact ⟨_, _, rfl, rout_empty ⟨hsrc, hch, fun hh => by cases hh⟩
        (sameW_refl c) rfl hq hfU (by rw [he]; exact ⟨rfl, rfl⟩)⟩
  · right
    obtain ⟨ch, rest, hq⟩ := List.exists_cons_of_ne_nil hq
    have hch' := hch
    rw [hq] at hch'
    obtain ⟨x, t', hread, hx, hxl, hflat, hcs, he, hp, hd⟩ :=
      tr_read_cons c.tr (c.src.cap - c.src.data.length) ch rest hq (hch' ch (List.mem_cons_self ..))
        (fun c hc => hch' c (List.mem_cons_of_mem _ hc)) (Nat.sub_pos_of_lt hroom)
    have hxpos : 0 < x.length := List.length_pos_iff.mpr hx
    have hri := hsrc.ri_le
    refine ⟨{ c with tr := t', src := c.src.append x, rpend := false }, ?_, ?_, rfl, ?_, fun c' s hout => ?_⟩
    · unfold transportRead; rw [hread]
    · refine ⟨⟨?_, ?_, hsrc.cap4, ?_, hsrc.clean_ri⟩, hcs, fun hh => by cases hh⟩
      · show c.src.ri ≤ (c.src.data ++ x).length
        rw [List.length_append]; exact Nat.le_trans hri (Nat.le_add_right ..)
      · show (c.src.data ++ x).length ≤ c.src.cap
        rw [List.length_append]; omega
      · intro hh; rw [hres] at hh; cases hh
    · show t'.inq.flatten.length < c.tr.inq.flatten.length
      rw [← hflat, List.length_append]; exact Nat.lt_add_of_pos_left hxpos
    · refine hout.of_same_unparsed ⟨rfl, rfl, hp, he, hd⟩ ?_ (fun _ => rfl)
      simp only [unparsed, clean, hres, BB.append, Bool.false_eq_true, if_false]
      rw [List.append_assoc, hflat]

theorem fuelFor_ok (c : Conn) : c.tr.inq.flatten.length < fuelFor c := by
  rw [List.length_flatten]; exact Nat.lt_succ_self _

theorem readLoop_spec (limit : Nat) (async : Bool) :
    ∀ (fuel : Nat) (env : List Nat) (c : Conn), RInv limit c → c.rpend = false → c.tr.inq.flatten.length < fuel →
      ROut limit async c (readLoop limit async fuel env c).1 (readLoop limit async fuel env c).2 := by
  intro fuel
  induction fuel with
  | zero => intro env c _ _ h; exact absurd h (Nat.not_lt_zero _)
  | succ f ih =>
    intro env c hinv hrp hfuel
    unfold readLoop readTurn
    generalize hdec : decode limit (env.headD 0) c.dec c.src = o
    obtain ⟨d', b', r⟩ := o
    obtain ⟨hsrc', hitem, hbig, hinc⟩ := decode_spec limit (env.headD 0) hinv.src hdec
    have hU : unparsed c = clean c.dec c.src ++ c.tr.inq.flatten := rfl
    cases hf : front limit (clean c.dec c.src) with
    | item p rest =>
      obtain ⟨hr, hcl, hcap⟩ := hitem p rest hf
      subst hr
      simp only
      have hfu := front_item_append c.tr.inq.flatten hf
      refine ⟨⟨hsrc', hinv.chunks, fun hh => by rw [hrp] at hh; cases hh⟩, sameW_refl c, ?_, ?_, ?_⟩
      · intro p' rest' hh
        rw [hU, hfu] at hh
        injection hh with h1 h2
        exact ⟨by rw [h1], by simp only [unparsed]; rw [hcl, h2], hrp⟩
      · intro hh; rw [hU, hfu] at hh; cases hh
      · intro hh; rw [hU, hfu] at hh; cases hh
    | tooBig =>
      obtain ⟨hr, hcl, hcap⟩ := hbig hf
      subst hr
      simp only
      have hfu := front_tooBig_append c.tr.inq.flatten hf
      refine ⟨⟨hsrc', hinv.chunks, fun hh => by rw [hrp] at hh; cases hh⟩, sameW_refl c, ?_, ?_, ?_⟩
      · intro p' rest' hh; rw [hU, hfu] at hh; cases hh
      · intro _
        exact ⟨rfl, by simp only [unparsed]; rw [hcl], hcap, hrp⟩
      · intro hh; rw [hU, hfu] at hh; cases hh
    | incomplete =>
      obtain ⟨hr, hdata, hres, hroom, hcapeq⟩ := hinc hf
      subst hr
      simp only
      have hcl : clean d' b' = clean c.dec c.src := by
        simp only [clean, hres, hdata, Bool.false_eq_true, if_false]
      -- `Decode` answered `ErrNeedMore`: the buffer may have grown, but not if the prefix is over the limit
      have hback : ∀ c' s, ROut limit async { c with dec := d', src := b' } c' s → ROut limit async c c' s :=
        fun c' s h => h.of_same_unparsed (sameW_refl c) (by simp only [unparsed, hcl]) fun hh =>
          hcapeq (Decidable.byContradiction fun hl => by
            have := front_tooBig_of_append hl (hU ▸ hh)
            rw [hf] at this; cases this)
      rcases transportRead_cases limit async { c with dec := d', src := b' } hsrc' hinv.chunks hres hroom
        (by rw [hcl]; exact hf) (fun _ => hrp) with ⟨c', s, e, hout⟩ | ⟨c2, e, hinv2, hrp2, hlt, hfwd⟩
      · rw [e]; exact hback c' s hout
      · rw [e]
        exact hback _ _ (hfwd _ _ (ih env.tail c2 hinv2 hrp2 (Nat.lt_of_lt_of_le hlt (Nat.le_of_lt_succ hfuel))))

theorem readNext_spec (limit : Nat) (async : Bool) (env : List Nat) (c : Conn) (hinv : RInv limit c)
    (hrp : c.rpend = false) :
    ∃ c' st, readNext limit async env c = (c', robs c' st) ∧ ROut limit async c c' st := by
  refine ⟨_, _, ?_, readLoop_spec limit async (fuelFor c) env c hinv hrp (fuelFor_ok c)⟩
  simp only [readNext, hrp, Bool.false_eq_true, if_false]

theorem pumpRead_spec (limit : Nat) (env : List Nat) (c : Conn) (hinv : RInv limit c) (hrp : c.rpend = true) :
    ∃ c' st, pumpRead limit env c = (c', robs c' st) ∧ ROut limit true c c' st := by
  obtain ⟨hres, hroom, hfc⟩ := hinv.pend hrp
  unfold pumpRead
  rw [if_pos hrp]
  rcases transportRead_cases limit true c hinv.src hinv.chunks hres hroom hfc (fun h => by cases h)
    with ⟨c', s, e, hout⟩ | ⟨c2, e, hinv2, hrp2, _, hfwd⟩
  · rw [e]; exact ⟨c', s, rfl, hout⟩
  · rw [e]
    exact ⟨_, _, rfl, hfwd _ _ (readLoop_spec limit true (fuelFor c2) env c2 hinv2 hrp2 (fuelFor_ok c2))⟩

theorem readMany_spec {limit n : Nat} (envs : List (List Nat)) {c : Conn} (hinv : RInv limit c) (hrp : c.rpend = false) :
    readMany limit envs n c = specReads limit c.tr.eof n (unparsed c) := by
  induction n generalizing envs c with
  | zero => rfl
  | succ n ih =>
    obtain ⟨c', st, e, hout⟩ := readNext_spec limit false (envs.headD []) c hinv hrp
    have heof : c'.tr.eof = c.tr.eof := hout.same.eof
    simp only [readMany, specReads, e, robs]
    cases hf : front limit (unparsed c) with
    | item p rest =>
      obtain ⟨h1, h2, h3⟩ := hout.item p rest hf
      simp only
      rw [ih envs.tail hout.inv h3, h1, h2, heof]
    | tooBig =>
      obtain ⟨h1, h2, _, h4⟩ := hout.big hf
      simp only
      rw [ih envs.tail hout.inv h4, h1, h2, heof]
    | incomplete =>
      obtain ⟨h1, _, h3⟩ := hout.inc hf
      simp only
      cases he : c.tr.eof
      · rw [he] at h3
        simp only [Bool.false_eq_true, if_false] at h3
        rw [ih envs.tail hout.inv h3.2, h3.1, h1, heof, he]
        simp
      · rw [he] at h3
        simp only [if_true] at h3
        rw [ih envs.tail hout.inv h3.2, h3.1, h1, heof, he]
        simp

theorem specReads_wire (limit : Nat) (eof : Bool) (hlim : limit < 4294967296) :
    ∀ (ps : List Bytes) (tail : Bytes), (∀ p ∈ ps, p.length ≤ limit) →
      specReads limit eof ps.length (wire ps ++ tail) = ps.map .item := by
  intro ps
  induction ps with
  | nil => intro _ _; rfl
  | cons p ps ih =>
    intro tail hps
    have hp := hps p (List.mem_cons_self ..)
    simp only [wire, List.length_cons, specReads, List.append_assoc]
    rw [frame_front p (wire ps ++ tail) hp (by omega)]
    simp only [List.map_cons]
    rw [ih tail (fun q hq => hps q (List.mem_cons_of_mem _ hq))]

theorem feed_same (t : Tr) (b : Bytes) :
    (t.feed b).eof = t.eof ∧ (t.feed b).plan = t.plan ∧ (t.feed b).deferW = t.deferW := by
  unfold Tr.feed; split <;> exact ⟨rfl, rfl, rfl⟩

theorem feed_flatten (t : Tr) (b : Bytes) : (t.feed b).inq.flatten = t.inq.flatten ++ b := by
  unfold Tr.feed
  split
  · rename_i h; rw [h, List.append_nil]
  · simp only [List.flatten_append, List.flatten_cons, List.flatten_nil, List.append_nil]

theorem feed_chunks {t : Tr} {b : Bytes} (h : ∀ ch ∈ t.inq, ch ≠ []) : ∀ ch ∈ (t.feed b).inq, ch ≠ [] := by
  unfold Tr.feed
  split
  · exact h
  · rename_i hb
    intro ch hch
    rcases List.mem_append.mp hch with h' | h'
    · exact h ch h'
    · rw [List.mem_singleton.mp h']; exact hb

theorem feed_inv (limit : Nat) (c : Conn) (b : Bytes) (h : RInv limit c) :
    RInv limit ({ c with tr := c.tr.feed b } : Conn) ∧
      unparsed ({ c with tr := c.tr.feed b } : Conn) = unparsed c ++ b :=
  ⟨⟨h.src, feed_chunks h.chunks, h.pend⟩, by simp only [unparsed, feed_flatten, List.append_assoc]⟩

theorem feedAll_inv (limit : Nat) : ∀ (segs : List Bytes) (c : Conn), RInv limit c → c.rpend = false →
    RInv limit (segs.foldl (fun c b => { c with tr := c.tr.feed b }) c) ∧
    (segs.foldl (fun c b => { c with tr := c.tr.feed b }) c).rpend = false ∧
    unparsed (segs.foldl (fun c b => { c with tr := c.tr.feed b }) c) = unparsed c ++ segs.flatten ∧
    (segs.foldl (fun c b => { c with tr := c.tr.feed b }) c).tr.eof = c.tr.eof := by
  intro segs
  induction segs with
  | nil => intro c h hp; exact ⟨h, hp, by simp, rfl⟩
  | cons b segs ih =>
    intro c h hp
    obtain ⟨f1, f2⟩ := feed_inv limit c b h
    obtain ⟨i1, i2, i3, i4⟩ := ih _ f1 hp
    refine ⟨i1, i2, ?_, ?_⟩
    · simp only [List.foldl_cons, List.flatten_cons]; rw [i3, f2, List.append_assoc]
    · simp only [List.foldl_cons]; rw [i4]; exact (feed_same c.tr b).1

theorem fed_spec (limit : Nat) (segs : List Bytes) :
    RInv limit (fed segs) ∧ (fed segs).rpend = false ∧ unparsed (fed segs) = segs.flatten ∧ (fed segs).tr.eof = false := by
  obtain ⟨i1, i2, i3, i4⟩ := feedAll_inv limit segs Conn.new ⟨srcInv_new, nofun, nofun⟩ rfl
  exact ⟨i1, i2, by rw [fed, i3]; simp [unparsed, clean, Conn.new, BB.new], i4⟩

end Sonic.Lemmas.FrameCodec
