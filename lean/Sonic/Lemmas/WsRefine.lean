/-
The model of stream.go against the RFC 6455 monitor (C08/C15): what each operation of the model does, case by case; the
same for the monitor; the coupling `Q` between the two; and the simulation, one frame, one message, one operation.
-/
import Sonic.Lemmas.WsOut

namespace Sonic.Lemmas.WsRefine
open Sonic.Spec.WsStream Sonic.Model.WsStream Sonic.Lemmas.WsOut

def violated (m : M) : M :=
  { (if m.state == .active then prepareClose m (u16 1002) else m) with state := .closedByUs }

def replyPayload (p : Bytes) : Bytes :=
  if p.length ≥ 2 then
    if !utf8Valid (p.drop 2) then u16 1002
    else if !validCloseCode (closeCodeOf p) then u16 1002
    else p
  else if p.length > 0 then u16 1002
  else u16 1000

def conform (m : M) (f : InFrame) : M :=
  if f.op = 9 then (if m.state = .active then prepareWrite m (pong f.payload) else m)
  else if f.op = 8 then
    match m.state with
    | .active => prepareClose { m with state := .closedByPeer } (replyPayload f.payload)
    | .closedByUs => { m with state := .closeAcked }
    | _ => m
  else m

theorem isControl_of (op : Nat) (h : op = 8 ∨ op = 9 ∨ op = 10) : isControl op = true ∧ controlOp op = true := by
  rcases h with h | h | h <;> subst h <;> exact ⟨rfl, rfl⟩

theorem notControl_of (op : Nat) (h : op = 0 ∨ op = 1 ∨ op = 2) : isControl op = false ∧ controlOp op = false := by
  rcases h with h | h | h <;> subst h <;> exact ⟨rfl, rfl⟩

theorem opcode_cases : ∀ op : Nat,
    ((op = 0 ∨ op = 1 ∨ op = 2) ∧ isControl op = false ∧ controlOp op = false ∧ isReserved op = false ∧
      reservedOp op = false) ∨
    ((op = 8 ∨ op = 9 ∨ op = 10) ∧ isControl op = true ∧ controlOp op = true ∧ reservedOp op = false) ∨
    (isControl op = false ∧ isReserved op = true ∧ reservedOp op = true)
  | 0 => .inl ⟨.inl rfl, rfl, rfl, rfl, rfl⟩
  | 1 => .inl ⟨.inr (.inl rfl), rfl, rfl, rfl, rfl⟩
  | 2 => .inl ⟨.inr (.inr rfl), rfl, rfl, rfl, rfl⟩
  | 8 => .inr (.inl ⟨.inl rfl, rfl, rfl, rfl⟩)
  | 9 => .inr (.inl ⟨.inr (.inl rfl), rfl, rfl, rfl⟩)
  | 10 => .inr (.inl ⟨.inr (.inr rfl), rfl, rfl, rfl⟩)
  | 3 | 4 | 5 | 6 | 7 | _ + 11 => .inr (.inr ⟨rfl, rfl, rfl⟩)

theorem conform_ping (m : M) {f : InFrame} (h : f.op = 9) :
    conform m f = if m.state = .active then prepareWrite m (pong f.payload) else m := by
  unfold conform
  rw [if_pos h]

theorem conform_close_active {m : M} {f : InFrame} (h : f.op = 8) (hs : m.state = .active) :
    conform m f = prepareClose { m with state := .closedByPeer } (replyPayload f.payload) := by
  unfold conform
  rw [h, hs]; rfl

theorem conform_close_closing {m : M} {f : InFrame} (h : f.op = 8) (hs : m.state = .closedByUs) :
    conform m f = { m with state := .closeAcked } := by
  unfold conform
  rw [h, hs]; rfl

theorem conform_other (m : M) {f : InFrame} (h9 : f.op ≠ 9) (h8 : f.op ≠ 8) : conform m f = m := by
  unfold conform
  rw [if_neg h9, if_neg h8]

theorem conform_data (m : M) {f : InFrame} (h : f.op = 0 ∨ f.op = 1 ∨ f.op = 2) : conform m f = m :=
  conform_other m (by omega) (by omega)

theorem conform_keeps (m : M) (f : InFrame) :
    (conform m f).max = m.max ∧ (conform m f).wire = m.wire ∧ (conform m f).inq = m.inq := by
  unfold conform
  repeat' split
  all_goals exact ⟨rfl, rfl, rfl⟩

def checked (m : M) (f : InFrame) : Option (M × Err) :=
  if verifyFrame f = .nil then
    (if isControl f.op then handleControlFrame m f else some (m, handleDataFrame f))
  else some (m, verifyFrame f)

theorem handleFrame_eq (m : M) (f : InFrame) :
    handleFrame m f = match checked m f with
      | none => none
      | some (m', e) => if e = .nil then some (m', .nil) else some (violated m', e) := rfl

theorem handleFrame_fail {m : M} {f : InFrame} {v : Viol} (h : checked m f = some (m, .proto v)) :
    ∃ e, handleFrame m f = some (violated m, e) ∧ e.isProto = true := by
  rw [handleFrame_eq, h]; exact ⟨_, rfl, rfl⟩

theorem checked_rsv (m : M) {f : InFrame} (h : f.rsv ≠ 0) : checked m f = some (m, .proto .rsv) := by
  unfold checked verifyFrame
  rw [if_pos (bne_iff_ne.2 h)]; rfl

theorem checked_masked (m : M) {f : InFrame} (h1 : f.rsv = 0) (h2 : f.masked = true) :
    checked m f = some (m, .proto .masked) := by
  unfold checked verifyFrame
  rw [h1, h2]; rfl

theorem checked_unmasked (m : M) {f : InFrame} (h1 : f.rsv = 0) (h2 : f.masked = false) :
    checked m f = if isControl f.op then handleControlFrame m f else some (m, handleDataFrame f) := by
  unfold checked verifyFrame
  rw [h1, h2]; rfl

theorem hcf_fragmented (m : M) {f : InFrame} (h : f.fin = false) :
    handleControlFrame m f = some (m, .proto .ctlFin) := by
  unfold handleControlFrame
  rw [h]; rfl

theorem hcf_big (m : M) {f : InFrame} (hf : f.fin = true) (h : f.payload.length > 125) :
    handleControlFrame m f = some (m, .proto .ctlBig) := by
  unfold handleControlFrame
  rw [hf, if_pos h]; rfl

/-- A function applied to the Close reply, as the chain of cases of `handleControlFrame`. -/
theorem apply_replyPayload {α : Type} (g : Bytes → α) (p : Bytes) :
    g (replyPayload p) =
      if p.length ≥ 2 then
        if !utf8Valid (p.drop 2) then g (u16 1002)
        else if !validCloseCode (closeCodeOf p) then g (u16 1002)
        else g p
      else if p.length > 0 then g (u16 1002)
      else g (u16 1000) := by
  simp only [replyPayload, apply_ite g]

theorem hcf_ok (m : M) {f : InFrame} (hf : f.fin = true) (hl : f.payload.length ≤ 125)
    (hop : f.op = 8 ∨ f.op = 9 ∨ f.op = 10) (hs : m.state = .active ∨ m.state = .closedByUs) :
    handleControlFrame m f = some (conform m f, .nil) := by
  unfold handleControlFrame conform
  rw [hf, if_neg (Nat.not_lt.2 hl)]
  rcases hop with h | h | h <;> rw [h]
  · rcases hs with hs | hs <;> rw [hs]
    · exact (apply_replyPayload (fun p => some (prepareClose { m with state := .closedByPeer } p, Err.nil)) f.payload).symm
    · rfl
  · rcases hs with hs | hs <;> rw [hs] <;> rfl
  · rfl

theorem hf_viol (m : M) (f : InFrame) (h : isViolation f = true) :
    ∃ e, handleFrame m f = some (violated m, e) ∧ e.isProto = true := by
  by_cases h1 : f.rsv ≠ 0
  · exact handleFrame_fail (checked_rsv m h1)
  replace h1 : f.rsv = 0 := Decidable.not_not.1 h1
  by_cases h2 : f.masked = true
  · exact handleFrame_fail (checked_masked m h1 h2)
  replace h2 : f.masked = false := Bool.eq_false_iff.2 h2
  unfold isViolation at h
  rw [h1, h2] at h
  have hc := checked_unmasked m h1 h2
  rcases opcode_cases f.op with ⟨_, _, c2, _, c4⟩ | ⟨_, c1, c2, c4⟩ | ⟨c1, c3, _⟩
  · rw [c2, c4] at h
    exact Bool.noConfusion h
  · rw [c2, c4] at h
    rw [c1, if_pos rfl] at hc
    cases hfin : f.fin
    · exact handleFrame_fail (hc.trans (hcf_fragmented m hfin))
    · rw [hfin] at h
      exact handleFrame_fail (hc.trans (hcf_big m hfin (of_decide_eq_true h)))
  · rw [c1, if_neg Bool.false_ne_true, handleDataFrame, c3, if_pos rfl] at hc
    exact handleFrame_fail hc

theorem conforming_cases (f : InFrame) (h : isViolation f = false) :
    f.rsv = 0 ∧ f.masked = false ∧
    (((f.op = 8 ∨ f.op = 9 ∨ f.op = 10) ∧ f.fin = true ∧ f.payload.length ≤ 125) ∨ (f.op = 0 ∨ f.op = 1 ∨ f.op = 2)) := by
  simp only [isViolation, Bool.or_eq_false_iff, bne_eq_false_iff_eq] at h
  obtain ⟨⟨⟨h1, h2⟩, h3⟩, h4⟩ := h
  refine ⟨h1, h2, ?_⟩
  rcases opcode_cases f.op with ⟨hop, _⟩ | ⟨hop, _, c2, _⟩ | ⟨_, _, c4⟩
  · exact .inr hop
  · rw [c2] at h4
    cases hfin : f.fin
    · rw [hfin] at h4; exact Bool.noConfusion h4
    · rw [hfin] at h4
      exact .inl ⟨hop, rfl, Nat.not_lt.1 (of_decide_eq_false h4)⟩
  · rw [c4] at h3; exact Bool.noConfusion h3

theorem hf_ok (m : M) (f : InFrame) (h : isViolation f = false) (hs : m.state = .active ∨ m.state = .closedByUs) :
    handleFrame m f = some (conform m f, .nil) := by
  obtain ⟨h1, h2, h3⟩ := conforming_cases f h
  have hc : checked m f = some (conform m f, .nil) := by
    rw [checked_unmasked m h1 h2]
    rcases h3 with ⟨hop, hfin, hlen⟩ | hop
    · rw [(isControl_of f.op hop).1, if_pos rfl]
      exact hcf_ok m hfin hlen hop hs
    · rw [(notControl_of f.op hop).1, if_neg Bool.false_ne_true, conform_data m hop]
      rcases hop with h | h | h <;> rw [handleDataFrame, h] <;> rfl
  rw [handleFrame_eq, hc]
  rfl

theorem violated_active {m : M} (h : m.state = .active) :
    violated m = { m with state := .closedByUs,
                          pending := m.pending ++ [{ fin := true, op := 8, masked := true, payload := u16 1002 }] } := by
  unfold violated
  rw [h]; rfl

theorem violated_closing {m : M} (h : m.state = .closedByUs) : violated m = m := by
  obtain ⟨_, st, _, _, _, _, _⟩ := m
  cases h; rfl

theorem violated_keeps (m : M) :
    (violated m).max = m.max ∧ (violated m).wire = m.wire ∧ (violated m).inq = m.inq := by
  unfold violated
  split <;> exact ⟨rfl, rfl, rfl⟩

theorem write_inactive {m : M} (h : m.state ≠ .active) (ty : Nat) (p : Bytes) :
    (write m ty p).2 ≠ .nil ∧ (write m ty p).1 = m := by
  unfold write
  split
  · exact ⟨Err.noConfusion, rfl⟩
  · rw [if_neg (by rw [beq_iff_eq]; exact h)]; exact ⟨Err.noConfusion, rfl⟩

theorem write_active {m : M} (h : m.state = .active) (ty : Nat) {p : Bytes} (hp : p.length ≤ m.max) :
    write m ty p = (flush (prepareWrite m { fin := true, op := ty % 16, masked := true, payload := p }), .nil) := by
  unfold write
  rw [if_neg (Nat.not_lt.2 hp), h]; rfl

theorem write_tooBig (m : M) (ty : Nat) {p : Bytes} (hp : p.length > m.max) : write m ty p = (m, .tooBig) := by
  unfold write
  rw [if_pos hp]

theorem writeFrame_inactive {m : M} (h : m.state ≠ .active) (fin : Bool) (op : Nat) (p : Bytes) :
    writeFrame m fin op p = (m, .cancelled) := by
  unfold writeFrame
  rw [if_neg (by rw [beq_iff_eq]; exact h)]

theorem writeFrame_active {m : M} (h : m.state = .active) (fin : Bool) (op : Nat) (p : Bytes) :
    writeFrame m fin op p = (flush (prepareWrite m { fin := fin, op := op % 16, masked := true, payload := p }), .nil) := by
  unfold writeFrame
  rw [h]; rfl

theorem close_active {m : M} (h : m.state = .active) (code : Nat) (reason : Bytes) :
    close m code reason = (flush (prepareClose { m with state := .closedByUs } (u16 code ++ reason)), .nil) := by
  unfold close
  rw [h]

theorem close_inactive {m : M} (h : m.state ≠ .active) (code : Nat) (reason : Bytes) :
    (close m code reason).2 ≠ .nil ∧ (close m code reason).1 = m := by
  unfold close
  split
  · exact absurd ‹_› h
  all_goals exact ⟨Err.noConfusion, rfl⟩

def deq (m : M) (rest : List InFrame) : M := { m with inq := rest }

theorem canRead_cases {m : M} (h : canRead m = true) : m.state = .active ∨ m.state = .closedByUs := by
  simpa [canRead] using h

theorem out_flush (m : M) : out (flush m) = out m := by simp [out, flush]

theorem readNext_nil {m : M} (hq : m.inq = []) :
    readNext m = if m.rerr then ({ m with rerr := false }, .err .ioerr)
      else if m.eof then (m, .err .eof) else (m, .err .nodata) := by
  unfold readNext
  split
  · rename_i h; rw [hq] at h; cases h
  · rfl

theorem readNext_cons {m : M} {f : InFrame} {rest : List InFrame} (hq : m.inq = f :: rest) :
    readNext m = if f.payload.length > m.max then (m, .err .overMax) else (deq m rest, .frame f) := by
  unfold readNext
  split
  · rename_i h; rw [hq] at h; cases h; rfl
  · rename_i h; rw [hq] at h; cases h

theorem nextFrame_eq (async : Bool) {m : M} (hr : canRead m = true) :
    nextFrame async m = match nextFrameInner (flush m) with
      | none => none
      | some (m', e, f) => some (if !async && e == .eof then { m' with state := .terminated } else m', e, f) := by
  have hr' : canRead (flush m) = true := hr
  unfold nextFrame
  dsimp only
  rw [hr']; rfl

theorem nextFrame_gated (async : Bool) {m : M} (hr : canRead m = false) :
    nextFrame async m = some (if async then { flush m with state := .terminated } else flush m, .eof, none) := by
  have hr' : canRead (flush m) = false := hr
  unfold nextFrame
  dsimp only
  rw [hr']; rfl

theorem nextFrame_over (async : Bool) {m : M} {f : InFrame} {rest : List InFrame} (hr : canRead m = true)
    (hq : m.inq = f :: rest) (h : f.payload.length > m.max) : nextFrame async m = some (flush m, .overMax, none) := by
  rw [nextFrame_eq async hr, nextFrameInner, readNext_cons (m := flush m) hq, if_pos (show f.payload.length > (flush m).max from h)]
  cases async <;> rfl

theorem nextFrame_empty (async : Bool) {m : M} (hr : canRead m = true) (hq : m.inq = []) :
    nextFrame async m =
      if m.rerr then some ({ flush m with rerr := false }, .ioerr, none)
      else if m.eof then some ({ flush m with state := .terminated }, .eof, some close1006)
      else some (flush m, .nodata, none) := by
  rw [nextFrame_eq async hr, nextFrameInner, readNext_nil (m := flush m) hq]
  obtain ⟨_, _, _, _, _, rerr, eof⟩ := m
  cases rerr <;> cases eof <;> cases async <;> rfl

theorem nextFrameInner_cons {m : M} {f : InFrame} {rest : List InFrame} (hq : m.inq = f :: rest)
    (hmax : f.payload.length ≤ m.max) :
    nextFrameInner m = match handleFrame (deq m rest) f with
      | none => none
      | some (m', e) => some (m', e, some f) := by
  rw [nextFrameInner, readNext_cons hq, if_neg (Nat.not_lt.2 hmax)]; rfl

theorem nextFrame_conform (async : Bool) {m : M} {f : InFrame} {rest : List InFrame} (hr : canRead m = true)
    (hq : m.inq = f :: rest) (hconf : isViolation f = false) (hmax : f.payload.length ≤ m.max) :
    nextFrame async m = some (conform (deq (flush m) rest) f, .nil, some f) := by
  rw [nextFrame_eq async hr, nextFrameInner_cons (m := flush m) hq hmax, hf_ok (deq (flush m) rest) f hconf (canRead_cases hr)]
  cases async <;> rfl

theorem nextFrame_violation (async : Bool) {m : M} {f : InFrame} {rest : List InFrame} (hr : canRead m = true)
    (hq : m.inq = f :: rest) (hv : isViolation f = true) (hmax : f.payload.length ≤ m.max) :
    ∃ e, e.isProto = true ∧ nextFrame async m = some (violated (deq (flush m) rest), e, some f) := by
  obtain ⟨e, he, hp⟩ := hf_viol (deq (flush m) rest) f hv
  refine ⟨e, hp, ?_⟩
  rw [nextFrame_eq async hr, nextFrameInner_cons (m := flush m) hq hmax, he]
  cases e with
  | proto v => cases async <;> rfl
  | _ => cases hp

/-- The fragmentation rule (RFC 6455 §5.4) as `NextMessage` checks it: `cont` = a fragmented message is in progress. -/
def fragErr (cont : Bool) (op : Nat) : Err :=
  if !cont then (if op = 0 then .unexpCont else .nil) else (if op ≠ 0 then .expCont else .nil)

-- One turn of the loop of `Model.WsStream.nextMessage` (the stream model), by what `nextFrame` returned.  The loop of the
-- twin model over the byte-level reader, `Model.WsMsg.nextMessageFuel`, has its own equations in Lemmas/WsMsgDeliver.lean.
section
variable {async : Bool} {buf fuel : Nat} {m m' : M} {a : Asm} {f : InFrame}

theorem nextMessage_stop {e : Err} {fo : Option InFrame} (h : nextFrame async m = some (m', e, fo)) (he : e ≠ .nil) :
    nextMessage async buf (fuel + 1) m a = some (m', e, a) := by
  rw [nextMessage, h]
  dsimp only
  rw [if_pos he]

theorem nextMessage_ctl (h : nextFrame async m = some (m', .nil, some f)) (hc : isControl f.op = true) :
    nextMessage async buf (fuel + 1) m a =
      nextMessage async buf fuel m' { a with ctl := a.ctl ++ [(f.op, f.payload)] } := by
  rw [nextMessage, h]
  dsimp only
  rw [if_neg (fun h => h rfl), if_pos hc]

theorem nextMessage_tooBig (h : nextFrame async m = some (m', .nil, some f)) (hc : isControl f.op = false)
    (hn : a.n ≤ buf) (hbig : a.n + f.payload.length > buf ∨ a.n + f.payload.length > m'.max) :
    ∃ a', nextMessage async buf (fuel + 1) m a = some ((close m' 1001 tooBigReason).1, .tooBig, a') := by
  rw [nextMessage, h]
  dsimp only
  rw [if_neg (fun h => h rfl), if_neg (by rw [hc]; exact Bool.false_ne_true), if_pos (by omega)]
  exact ⟨_, rfl⟩

theorem nextMessage_data (h : nextFrame async m = some (m', .nil, some f)) (hc : isControl f.op = false)
    (hfit : a.n + f.payload.length ≤ buf) (hmax : a.n + f.payload.length ≤ m'.max) :
    nextMessage async buf (fuel + 1) m a =
      if fragErr a.cont f.op ≠ .nil ∨ (!f.fin) = false then
        some (m', fragErr a.cont f.op, { a with ty := if a.ty = 255 then f.op else a.ty, n := a.n + f.payload.length,
                                                data := a.data ++ f.payload, cont := !f.fin })
      else nextMessage async buf fuel m' { a with ty := if a.ty = 255 then f.op else a.ty, n := a.n + f.payload.length,
                                                  data := a.data ++ f.payload, cont := !f.fin } := by
  have hk : min (buf - a.n) f.payload.length = f.payload.length := Nat.min_eq_right (Nat.le_sub_of_add_le' hfit)
  rw [nextMessage, h]
  dsimp only
  rw [if_neg (fun h => h rfl), if_neg (by rw [hc]; exact Bool.false_ne_true), hk,
    if_neg (fun h => h.elim (Nat.not_lt.2 hmax) (fun h => h rfl)), List.take_length]
  rfl

end

theorem rx_nil {s : S} (hre : s.readable = true) (hq : s.inq = []) :
    rx s = if s.rerr then (.ioerr, { s with rerr := false })
      else if s.eof then (.eof, { s with stage := .aborted }) else (.nodata, s) := by
  unfold rx
  rw [hre, if_neg (show ¬ (!true) = true from Bool.false_ne_true)]
  split
  · rename_i h; rw [hq] at h; cases h
  · rfl

theorem rx_cons {s : S} {f : InFrame} {r : List InFrame} (hre : s.readable = true) (hq : s.inq = f :: r) :
    rx s = if f.payload.length > s.max then (.over, s) else (.frame f, { s with inq := r }) := by
  unfold rx
  rw [hre, if_neg (show ¬ (!true) = true from Bool.false_ne_true)]
  split
  · rename_i h; rw [hq] at h; cases h; rfl
  · rename_i h; rw [hq] at h; cases h

theorem receive_gated {s : S} (hre : s.readable = false) : receive s = ({ s with ended := true }, .stop .eos) := by
  rw [receive, rx, hre]; rfl

theorem receive_over {s : S} {f : InFrame} {r : List InFrame} (hre : s.readable = true) (hq : s.inq = f :: r)
    (h : f.payload.length > s.max) : receive s = (s, .stop .over) := by
  rw [receive, rx_cons hre hq, if_pos h]

theorem receive_empty {s : S} (hre : s.readable = true) (hq : s.inq = []) :
    receive s = if s.rerr then ({ s with rerr := false }, .stop (.transport .ioerr))
      else if s.eof then ({ s with stage := .aborted }, .stop .abnormal) else (s, .stop (.transport .nodata)) := by
  rw [receive, rx_nil hre hq]
  cases s.rerr <;> cases s.eof <;> rfl

theorem receive_cons {s : S} {f : InFrame} {r : List InFrame} (hre : s.readable = true) (hq : s.inq = f :: r)
    (h : f.payload.length ≤ s.max) :
    receive s = if isViolation f then (violate { s with inq := r }, .violated) else (recv { s with inq := r } f, .frame f) := by
  rw [receive, rx_cons hre hq, if_neg (Nat.not_lt.2 h)]

section
variable {cn : Bool} {buf fuel : Nat} {s s1 : S} {ty : Option Nat} {acc : Bytes} {f : InFrame}

theorem readMsg_stop {w : Want} (h : receive s = (s1, .stop w)) : readMsg cn buf (fuel + 1) s ty acc = (s1, w) := by
  rw [readMsg, h]

theorem readMsg_violated (h : receive s = (s1, .violated)) :
    readMsg cn buf (fuel + 1) s ty acc = (s1, .violation acc) := by
  rw [readMsg, h]

theorem readMsg_ctl (h : receive s = (s1, .frame f)) (hc : controlOp f.op = true) :
    readMsg cn buf (fuel + 1) s ty acc = readMsg cn buf fuel s1 ty acc := by
  rw [readMsg, h]
  dsimp only
  rw [if_pos hc]

theorem readMsg_tooBig (h : receive s = (s1, .frame f)) (hc : controlOp f.op = false)
    (hbig : acc.length + f.payload.length > buf ∨ acc.length + f.payload.length > s1.max) :
    readMsg cn buf (fuel + 1) s ty acc =
      (if s1.stage = .opened && cn then { s1.push .closeAny with stage := .closing } else s1, .tooBig) := by
  rw [readMsg, h]
  dsimp only
  rw [if_neg (by rw [hc]; exact Bool.false_ne_true),
    if_pos (by simpa only [Bool.or_eq_true, decide_eq_true_eq, List.length_append] using hbig)]

/-- A data frame that fits, with the fragmentation rule in the model's terms (`cont` = a message is in progress). -/
theorem readMsg_data (h : receive s = (s1, .frame f)) (hc : controlOp f.op = false)
    (hfit : acc.length + f.payload.length ≤ buf) (hmax : acc.length + f.payload.length ≤ s1.max)
    {cont : Bool} (hty : ty.isSome = cont) :
    readMsg cn buf (fuel + 1) s ty acc =
      if fragErr cont f.op ≠ .nil then (s1, .frag (fragErr cont f.op))
      else if f.fin then (s1, .deliverMsg (ty.getD f.op) (acc ++ f.payload))
      else readMsg cn buf fuel s1 (some (ty.getD f.op)) (acc ++ f.payload) := by
  rw [readMsg, h]
  dsimp only
  rw [if_neg (by rw [hc]; exact Bool.false_ne_true),
    if_neg (by simp only [Bool.or_eq_true, decide_eq_true_eq, List.length_append]; omega)]
  subst hty
  cases ty <;> by_cases h0 : f.op = 0 <;> simp [fragErr, h0]

end

/-- `seen` and `sentClose` move only when an observation is committed. -/
def SameWire (s s' : S) : Prop := s'.seen = s.seen ∧ s'.sentClose = s.sentClose

theorem SameWire.trans {a b c : S} (h1 : SameWire a b) (h2 : SameWire b c) : SameWire a c :=
  ⟨h2.1.trans h1.1, h2.2.trans h1.2⟩

theorem SameWire.ite {s : S} {β : Type} {c : Prop} [Decidable c] {a b : S × β} (ha : SameWire s a.1)
    (hb : SameWire s b.1) : SameWire s (if c then a else b).1 := by
  split <;> assumption

theorem violate_wire (s : S) : SameWire s (violate s) := by
  unfold violate
  split <;> exact ⟨rfl, rfl⟩

theorem recv_wire (s : S) (f : InFrame) : SameWire s (recv s f) := by
  unfold recv
  repeat' split
  all_goals exact ⟨rfl, rfl⟩

theorem receive_wire (s : S) : SameWire s (receive s).1 := by
  cases hre : s.readable
  · rw [receive_gated hre]; exact ⟨rfl, rfl⟩
  cases hq : s.inq with
  | nil => rw [receive_empty hre hq]; exact .ite ⟨rfl, rfl⟩ (.ite ⟨rfl, rfl⟩ ⟨rfl, rfl⟩)
  | cons f r =>
    by_cases h : f.payload.length > s.max
    · rw [receive_over hre hq h]; exact ⟨rfl, rfl⟩
    · rw [receive_cons hre hq (Nat.not_lt.1 h)]; exact .ite (violate_wire _) (recv_wire _ f)

theorem readMsg_wire (cn : Bool) (buf : Nat) (fuel : Nat) : ∀ (s : S) (ty : Option Nat) (acc : Bytes),
    SameWire s (readMsg cn buf fuel s ty acc).1 := by
  induction fuel with
  | zero => exact fun _ _ _ => ⟨rfl, rfl⟩
  | succ fuel ih =>
    intro s ty acc
    have hr := receive_wire s
    rw [readMsg]
    generalize receive s = x at hr
    obtain ⟨s1, g⟩ := x
    cases g with
    | stop w => exact hr
    | violated => exact hr
    | frame f =>
      have hi := fun ty acc => hr.trans (ih s1 ty acc)
      have hbig : SameWire s (if s1.stage = .opened && cn then { s1.push .closeAny with stage := .closing } else s1) := by
        split
        · exact ⟨hr.1, hr.2⟩
        · exact hr
      exact .ite (hi ..) (.ite hbig (.ite hr (.ite hr (.ite hr (hi ..)))))

theorem advance_wire (s : S) (cn : Bool) (op : Op) : SameWire s (advance s cn op).1 := by
  cases op with
  | peer => exact ⟨rfl, rfl⟩
  | eof => exact ⟨rfl, rfl⟩
  | ioerr => exact ⟨rfl, rfl⟩
  | flush => exact ⟨rfl, rfl⟩
  | nextFrame async =>
    have hr := receive_wire s
    show SameWire s (readFrame s).1
    unfold readFrame
    generalize receive s = x at hr
    obtain ⟨s1, g⟩ := x
    cases g <;> exact hr
  | nextMsg async buf => exact readMsg_wire cn buf _ s none []
  | write => exact .ite ⟨rfl, rfl⟩ ⟨rfl, rfl⟩
  | writeFrame => exact .ite ⟨rfl, rfl⟩ ⟨rfl, rfl⟩
  | close => exact .ite ⟨rfl, rfl⟩ ⟨rfl, rfl⟩

/-- The coupling apart from the monitor's record of the wire (`R` adds that). `ex`: the frames the monitor says the client
owes are, one for one, those it has written or queued; `cl`, `nc`: a Close among them is the last, and there is none while `active`. -/
structure Q (m : M) (s : S) : Prop where
  max : s.max = m.max
  inq : s.inq = m.inq
  rerr : s.rerr = m.rerr
  eof : s.eof = m.eof
  st : stateOk s.stage s.ended m.state = true
  ex : matchExact s.expect (out m) = true
  cl : closeLast (out m) = true
  nc : m.state = .active → noClose (out m)

theorem stateOk_reading {stage : Stage} {ended : Bool} :
    (stateOk stage ended .active = true ↔ stage = .opened) ∧ (stateOk stage ended .closedByUs = true ↔ stage = .closing) := by
  cases stage <;> cases ended <;> decide

theorem opened_iff {m : M} {s : S} (h : Q m s) : s.stage = .opened ↔ m.state = .active := by
  constructor
  · intro hs; have := h.st; rw [hs] at this; exact eq_of_beq this
  · intro hm; have := h.st; rw [hm] at this; exact stateOk_reading.1.1 this

theorem closing_iff {m : M} {s : S} (h : Q m s) : s.stage = .closing ↔ m.state = .closedByUs := by
  constructor
  · intro hs; have := h.st; rw [hs] at this; exact eq_of_beq this
  · intro hm; have := h.st; rw [hm] at this; exact stateOk_reading.2.1 this

theorem readable_eq {m : M} {s : S} (h : Q m s) : s.readable = canRead m := by
  rw [Bool.eq_iff_iff]
  simp only [S.readable, canRead, Bool.or_eq_true, beq_iff_eq, opened_iff h, closing_iff h]

theorem Q_flush {m : M} {s : S} (h : Q m s) : Q (flush m) s :=
  ⟨h.max, h.inq, h.rerr, h.eof, h.st, by rw [out_flush]; exact h.ex, by rw [out_flush]; exact h.cl,
   fun ha => by rw [out_flush]; exact h.nc ha⟩

theorem Q_deq {m : M} {s : S} (h : Q m s) (rest : List InFrame) : Q (deq m rest) { s with inq := rest } :=
  ⟨h.max, rfl, h.rerr, h.eof, h.st, h.ex, h.cl, h.nc⟩

theorem out_prepareWrite (m : M) (f : OutFrame) : out (prepareWrite m f) = out m ++ [{ f with masked := true }] := by
  simp [out, prepareWrite]

theorem u16_take (c : Nat) : (u16 c).take 2 = u16 c := rfl

/-- While `active` no Close is out, so one more frame may be queued: the monitor owes `x`, the client queues a frame
`y` that meets it, and state and stage move together. This is every way the client comes to send something. -/
theorem Q_push {m : M} {s : S} (h : Q m s) (ha : m.state = .active) {x : Expect} {y : OutFrame}
    (hxy : x.matches y = true) {st : StreamState} {stage : Stage} (hst : stateOk stage s.ended st = true)
    (hnc : st = .active → y.isClose = false) :
    Q { m with state := st, pending := m.pending ++ [y] } { s.push x with stage := stage } := by
  have ho : out { m with state := st, pending := m.pending ++ [y] } = out m ++ [y] := (List.append_assoc ..).symm
  refine ⟨h.max, h.inq, h.rerr, h.eof, hst, ?_, ?_, fun hs => ?_⟩
  · rw [ho]; exact matchExact_snoc h.ex hxy
  · rw [ho]; exact closeLast_snoc y (h.nc ha)
  · rw [ho]; exact noClose_append (h.nc ha) (noClose_single (hnc hs))

theorem Q_violated {m : M} {s : S} (h : Q m s) (hr : canRead m = true) : Q (violated m) (violate s) := by
  rcases canRead_cases hr with ha | hc
  · rw [violated_active ha, violate, if_pos ((opened_iff h).2 ha)]
    exact Q_push h ha (x := .closeCode 1002) rfl (stage := .closing) rfl (fun hs => nomatch hs)
  · rw [violated_closing hc, violate, if_neg (fun hs => by rw [(opened_iff h).1 hs] at hc; cases hc)]
    exact h

theorem u16_code (a b : UInt8) : u16 (a.toNat * 256 + b.toNat) = [a, b] := by
  have hb : b.toNat < 256 := UInt8.toNat_lt b
  unfold u16
  rw [Nat.mul_comm, Nat.mul_add_div (by decide), Nat.mul_add_mod, Nat.div_eq_of_lt hb, Nat.mod_eq_of_lt hb, Nat.add_zero,
    UInt8.ofNat_toNat, UInt8.ofNat_toNat]

theorem reply_match : ∀ p : Bytes, (replyPayload p).take 2 = u16 (replyCode p)
  | [] => rfl
  | [_] => rfl
  | a :: b :: r => by
    show (if (!utf8Valid r) = true then u16 1002
      else if (!validCloseCode (a.toNat * 256 + b.toNat)) = true then u16 1002 else a :: b :: r).take 2 =
      u16 (if (!utf8Valid r) = true then 1002
        else if (!validCloseCode (a.toNat * 256 + b.toNat)) = true then 1002 else a.toNat * 256 + b.toNat)
    cases utf8Valid r
    · rfl
    · cases validCloseCode (a.toNat * 256 + b.toNat)
      · rfl
      · exact (u16_code a b).symm

theorem Q_conform {m : M} {s : S} (h : Q m s) (hr : canRead m = true) (f : InFrame) :
    Q (conform m f) (recv s f) := by
  unfold recv
  by_cases h9 : f.op = 9
  · rw [conform_ping m h9, if_pos h9]
    by_cases ha : m.state = .active
    · rw [if_pos ha, if_pos ((opened_iff h).2 ha)]
      exact Q_push h ha (x := .frame (pong f.payload)) (beq_self_eq_true _) h.st (fun _ => rfl)
    · rw [if_neg ha, if_neg (fun hs => ha ((opened_iff h).1 hs))]
      exact h
  rw [if_neg h9]
  by_cases h8 : f.op = 8
  · rw [if_pos h8]
    rcases canRead_cases hr with ha | hc
    · rw [conform_close_active h8 ha, (opened_iff h).2 ha]
      exact Q_push h ha (x := .closeCode (replyCode f.payload))
        (by simp only [Expect.matches, reply_match, beq_self_eq_true, Bool.and_self])
        (stage := .peerClosed) rfl (fun hs => nomatch hs)
    · rw [conform_close_closing h8 hc, (closing_iff h).2 hc]
      exact ⟨h.max, h.inq, h.rerr, h.eof, rfl, h.ex, h.cl, fun hx => nomatch hx⟩
  · rw [conform_other m h9 h8, if_neg h8]
    exact h

def Ext (m m' : M) : Prop := ∃ w, m'.wire = m.wire ++ w

theorem Ext.refl (m : M) : Ext m m := ⟨[], by simp⟩
theorem Ext.trans {a b c : M} (h1 : Ext a b) (h2 : Ext b c) : Ext a c := by
  obtain ⟨w1, e1⟩ := h1; obtain ⟨w2, e2⟩ := h2
  exact ⟨w1 ++ w2, by rw [e2, e1, List.append_assoc]⟩
theorem Ext.flush (m : M) : Ext m (flush m) := ⟨m.pending, rfl⟩

def GotOk : Got → Err → Option InFrame → Prop
  | .stop w, e, fo => e ≠ .nil ∧ retOk w (.frame e fo) = true ∧ ∀ ty n d ctl, retOk w (.msg e ty n d true ctl) = true
  | .violated, e, _ => e.isProto = true
  | .frame f, e, fo => e = .nil ∧ fo = some f ∧ isViolation f = false

theorem GotOk.stop {w : Want} {e : Err} {fo : Option InFrame} (he : e ≠ .nil) (h1 : retOk w (.frame e fo) = true)
    (h2 : ∀ ty n d ctl, retOk w (.msg e ty n d true ctl) = true) : GotOk (.stop w) e fo := ⟨he, h1, h2⟩

theorem stateOk_ended {stage : Stage} {ended : Bool} {st : StreamState} (h : stateOk stage ended st = true) :
    stateOk stage true st = true := by
  cases stage with
  | peerClosed | acked =>
    cases ended
    · revert h; cases st <;> decide
    · exact h
  | _ => exact h

/-- `terminated` is where the asynchronous read path moves after a read that reported end-of-stream. -/
theorem stateOk_terminated {stage : Stage} {st : StreamState} (h : stateOk stage true st = true)
    (ha : st ≠ .active) (hc : st ≠ .closedByUs) : stateOk stage true .terminated = true := by
  cases stage with
  | opened => exact absurd (eq_of_beq h) ha
  | closing => exact absurd (eq_of_beq h) hc
  | _ => rfl

/-- One frame: NextFrame/AsyncNextFrame against the monitor's `receive`. -/
theorem nf {m : M} {s : S} (h : Q m s) (async : Bool) :
    ∃ m' e fo, nextFrame async m = some (m', e, fo) ∧ Q m' (receive s).1 ∧ Ext m m' ∧ GotOk (receive s).2 e fo := by
  have hf := Q_flush h
  have hre := readable_eq h
  cases hr : canRead m
  · rw [hr] at hre
    rw [nextFrame_gated async hr, receive_gated hre]
    have h1 := stateOk_ended hf.st
    have h2 := stateOk_terminated h1 (fun (hx : m.state = _) => by rw [canRead, hx] at hr; cases hr)
      (fun (hx : m.state = _) => by rw [canRead, hx] at hr; cases hr)
    refine ⟨_, _, _, rfl, ?_, ?_, GotOk.stop (fun hx => nomatch hx) rfl (fun _ _ _ _ => rfl)⟩
    · cases async
      · exact ⟨hf.max, hf.inq, hf.rerr, hf.eof, h1, hf.ex, hf.cl, hf.nc⟩
      · exact ⟨hf.max, hf.inq, hf.rerr, hf.eof, h2, hf.ex, hf.cl, fun hx => nomatch hx⟩
    · cases async <;> exact Ext.flush m
  rw [hr] at hre
  cases hq : m.inq with
  | nil =>
    rw [nextFrame_empty async hr hq, receive_empty hre (h.inq.trans hq), h.rerr, h.eof]
    cases hre' : m.rerr
    · cases hef : m.eof
      · exact ⟨_, _, _, rfl, hf, Ext.flush m, GotOk.stop (fun hx => nomatch hx) rfl (fun _ _ _ _ => rfl)⟩
      · exact ⟨_, _, _, rfl, ⟨hf.max, hf.inq, hre'.symm, hef.symm, rfl, hf.ex, hf.cl, fun hx => nomatch hx⟩, Ext.flush m,
          GotOk.stop (fun hx => nomatch hx) rfl (fun _ _ _ _ => rfl)⟩
    · exact ⟨_, _, _, rfl, ⟨hf.max, hf.inq, rfl, rfl, hf.st, hf.ex, hf.cl, hf.nc⟩, Ext.flush m,
        GotOk.stop (fun hx => nomatch hx) rfl (fun _ _ _ _ => rfl)⟩
  | cons f rest =>
    have hsq : s.inq = f :: rest := h.inq.trans hq
    by_cases hov : f.payload.length > m.max
    · rw [nextFrame_over async hr hq hov, receive_over hre hsq (h.max ▸ hov)]
      exact ⟨_, _, _, rfl, hf, Ext.flush m, GotOk.stop (fun hx => nomatch hx) rfl (fun _ _ _ _ => rfl)⟩
    · have hmax := Nat.not_lt.1 hov
      have hQ' := Q_deq hf rest
      rw [receive_cons hre hsq (h.max ▸ hmax)]
      cases hv : isViolation f
      · rw [nextFrame_conform async hr hq hv hmax]
        exact ⟨_, _, _, rfl, Q_conform hQ' hr f, ⟨m.pending, (conform_keeps _ f).2.1⟩, rfl, rfl, hv⟩
      · obtain ⟨e, hp, he⟩ := nextFrame_violation async hr hq hv hmax
        rw [he]
        exact ⟨_, _, _, rfl, Q_violated hQ' hr, ⟨m.pending, (violated_keeps _).2.1⟩, hp⟩

theorem Q_close {m : M} {s : S} (h : Q m s) (ha : m.state = .active) (code : Nat) (reason : Bytes) {x : Expect}
    (hx : x.matches { fin := true, op := 8, masked := true, payload := u16 code ++ reason } = true) :
    Q (close m code reason).1 { s.push x with stage := .closing } ∧ Ext m (close m code reason).1 ∧
      (close m code reason).1.state = .closedByUs := by
  rw [close_active ha]
  exact ⟨Q_flush (Q_push h ha hx (stage := .closing) rfl (fun hs => nomatch hs)), ⟨_, rfl⟩, rfl⟩

def AsmRel (a : Asm) (ty : Option Nat) : Prop :=
  a.n = a.data.length ∧
  ((a.ty = 255 ∧ a.cont = false ∧ ty = none) ∨ (a.ty ≠ 255 ∧ a.cont = true ∧ ty = some a.ty))

theorem AsmRel.cont {a : Asm} {ty : Option Nat} (h : AsmRel a ty) : ty.isSome = a.cont := by
  rcases h.2 with ⟨_, h2, h3⟩ | ⟨_, h2, h3⟩ <;> rw [h2, h3] <;> rfl

theorem AsmRel.ty {a : Asm} {ty : Option Nat} (h : AsmRel a ty) (op : Nat) :
    (if a.ty = 255 then op else a.ty) = ty.getD op := by
  rcases h.2 with ⟨h1, _, h3⟩ | ⟨h1, _, h3⟩
  · rw [if_pos h1, h3]; rfl
  · rw [if_neg h1, h3]; rfl

/-- The message loop: NextMessage/AsyncNextMessage against the monitor's `readMsg`. The monitor is told whether the call
sent a Close (`m'.state == .closedByUs`), which only the result shows. -/
theorem nm (async : Bool) (buf : Nat) : ∀ (fuel : Nat) (m : M) (s : S) (a : Asm) (ty : Option Nat),
    Q m s → AsmRel a ty → a.n ≤ buf →
    ∃ m' e a', nextMessage async buf fuel m a = some (m', e, a') ∧ Ext m m' ∧
      Q m' (readMsg (m'.state == .closedByUs) buf fuel s ty a.data).1 ∧
      retOk (readMsg (m'.state == .closedByUs) buf fuel s ty a.data).2 (.msg e a'.ty a'.n a'.data true a'.ctl) = true := by
  intro fuel
  induction fuel with
  | zero => exact fun m s a ty hQ _ _ => ⟨m, .other, a, rfl, Ext.refl m, hQ, rfl⟩
  | succ fuel ih =>
    intro m s a ty hQ hA hn
    -- one turn: read a frame (`nf`), then by what the monitor says was received
    obtain ⟨m1, e, fo, h1, hQ1, hE1, hG⟩ := nf hQ async
    rcases hrec : receive s with ⟨s1, g⟩
    rw [hrec] at hQ1 hG
    cases g with
    | stop w =>
      -- the read ended with an error of the transport or end-of-stream: the loop returns it
      obtain ⟨hne, _, hmsg⟩ := hG
      refine ⟨m1, e, a, nextMessage_stop h1 hne, hE1, ?_⟩
      rw [readMsg_stop hrec]
      exact ⟨hQ1, hmsg ..⟩
    | violated =>
      -- a framing violation: the loop returns the protocol error, nothing of the frame is copied
      have hp : e.isProto = true := hG
      refine ⟨m1, e, a, nextMessage_stop h1 (fun hx => by rw [hx] at hp; cases hp), hE1, ?_⟩
      rw [readMsg_violated hrec]
      exact ⟨hQ1, by simp [retOk, hp, hA.1]⟩
    | frame f =>
      obtain ⟨rfl, rfl, hv⟩ := hG
      obtain ⟨_, _, hops⟩ := conforming_cases f hv
      rcases hops with ⟨hop, _, _⟩ | hop
      · -- a control frame goes to the callback; the loop goes on with the assembly untouched
        obtain ⟨hc1, hc2⟩ := isControl_of f.op hop
        obtain ⟨m', e', a', h2, hE2, hrest⟩ := ih m1 s1 { a with ctl := a.ctl ++ [(f.op, f.payload)] } ty hQ1 hA hn
        refine ⟨m', e', a', (nextMessage_ctl h1 hc1).trans h2, hE1.trans hE2, ?_⟩
        rw [readMsg_ctl hrec hc2]
        exact hrest
      obtain ⟨hc1, hc2⟩ := notControl_of f.op hop
      have han : a.n = a.data.length := hA.1
      have hmax : s1.max = m1.max := hQ1.max
      by_cases hbig : a.n + f.payload.length > buf ∨ a.n + f.payload.length > m1.max
      · -- a data frame that does not fit: `ErrMessageTooBig`, and a Close(1001) if the client is still `active`
        obtain ⟨a', ha'⟩ := nextMessage_tooBig (fuel := fuel) h1 hc1 hn hbig
        have hs := fun cn => readMsg_tooBig (cn := cn) (buf := buf) (fuel := fuel) (ty := ty) hrec hc2
          (by rw [← han, hmax]; exact hbig)
        by_cases ha : m1.state = .active
        · obtain ⟨hQc, hEc, hst⟩ := Q_close hQ1 ha 1001 tooBigReason (x := .closeAny) rfl
          refine ⟨_, _, a', ha', hE1.trans hEc, ?_⟩
          rw [hs, hst, (opened_iff hQ1).2 ha]
          exact ⟨hQc, rfl⟩
        · refine ⟨_, _, a', ha', ?_, ?_⟩
          · rw [(close_inactive ha 1001 tooBigReason).2]; exact hE1
          · rw [hs, (close_inactive ha 1001 tooBigReason).2,
              if_neg (by rw [Bool.and_eq_true, decide_eq_true_eq]; exact fun hx => ha ((opened_iff hQ1).1 hx.1))]
            exact ⟨hQ1, rfl⟩
      · -- a data frame that fits: a fragmentation error ends the loop, so does FIN; otherwise the loop goes on
        have hfit : a.n + f.payload.length ≤ buf := Nat.not_lt.1 fun h => hbig (.inl h)
        have hfit' : a.n + f.payload.length ≤ m1.max := Nat.not_lt.1 fun h => hbig (.inr h)
        have hlen : a.n + f.payload.length = (a.data ++ f.payload).length := by rw [List.length_append, han]
        rw [nextMessage_data h1 hc1 hfit hfit', hA.ty f.op]
        have hs := fun cn => readMsg_data (cn := cn) (buf := buf) (fuel := fuel) hrec hc2 (by rw [← han]; exact hfit)
          (by rw [← han, hmax]; exact hfit') hA.cont
        by_cases he : fragErr a.cont f.op = .nil
        · rw [he]
          cases hfin : f.fin
          · have hA' : AsmRel ⟨ty.getD f.op, a.n + f.payload.length, a.data ++ f.payload, true, a.ctl⟩
                (some (ty.getD f.op)) := by
              refine ⟨hlen, .inr ⟨?_, rfl, rfl⟩⟩
              rw [← hA.ty f.op]
              show (if a.ty = 255 then f.op else a.ty) ≠ 255
              split <;> omega
            obtain ⟨m', e', a', h2, hE2, hrest⟩ := ih m1 s1 _ _ hQ1 hA' hfit
            refine ⟨m', e', a', h2, hE1.trans hE2, ?_⟩
            rw [hs, if_neg (fun hx => hx he), hfin]
            exact hrest
          · refine ⟨_, _, _, rfl, hE1, ?_⟩
            rw [hs, if_neg (fun hx => hx he), hfin]
            exact ⟨hQ1, by simp [retOk, hlen]⟩
        · refine ⟨_, _, _, if_pos (.inl he), hE1, ?_⟩
          rw [hs, if_pos he]
          exact ⟨hQ1, by simp [retOk]⟩

def R (m : M) (s : S) : Prop :=
  Q m s ∧ s.seen = m.wire.length ∧ s.sentClose = m.wire.any OutFrame.isClose

/-- The application writes text or binary messages, and does not itself send Close frames through WriteFrame
(closing is what `Close` is for). -/
def OpOk : Op → Prop
  | .write _ ty _ => ty = 1 ∨ ty = 2
  | .writeFrame _ _ op _ => op < 16 ∧ op ≠ 8
  | _ => True

instance : DecidablePred OpOk := fun op => by cases op <;> unfold OpOk <;> exact inferInstance

/-- The end of every call: what is observed afterwards (`post`) passes the monitor's check, and `R` holds again. -/
theorem finish {m m' : M} {s s' : S} (hR : R m s) (hQ' : Q m' s') (hE : Ext m m')
    (h1 : s'.seen = s.seen) (h2 : s'.sentClose = s.sentClose) :
    postOk s' (post m m') = true ∧ R m' (commit s' (post m m')) := by
  obtain ⟨w, hw⟩ := hE
  obtain ⟨_, hseen, hsent⟩ := hR
  have hpw : (post m m').wire = w := by simp [post, hw]
  have hex := hQ'.ex
  have hcl := hQ'.cl
  unfold out at hex hcl
  rw [hw] at hex hcl
  have hlen := matchExact_length hex
  simp only [List.length_append] at hlen
  constructor
  · unfold postOk
    rw [hpw]
    simp only [Bool.and_eq_true, beq_iff_eq]
    refine ⟨⟨⟨hQ'.st, ?_⟩, ?_⟩, ?_⟩
    · show s'.seen + w.length + m'.pending.length = s'.expect.length
      rw [h1, hseen, hlen]
    · rw [h1, hseen]; exact matchAll_of_exact m.wire w m'.pending hex
    · rw [h2, hsent]; exact discipline_of_closeLast m.wire w m'.pending hcl
  · refine ⟨⟨hQ'.max, hQ'.inq, hQ'.rerr, hQ'.eof, hQ'.st, hQ'.ex, hQ'.cl, hQ'.nc⟩, ?_, ?_⟩
    · show s'.seen + (post m m').wire.length = m'.wire.length
      rw [hpw, hw, h1, hseen, List.length_append]
    · show (s'.sentClose || (post m m').wire.any OutFrame.isClose) = m'.wire.any OutFrame.isClose
      rw [hpw, hw, h2, hsent, List.any_append]

/-- How every case of `step_refines` ends. -/
theorem accept_of {m m' : M} {s s' : S} {op : Op} {r : Ret} {want : Want} (hR : R m s)
    (hadv : advance s (m'.state == .closedByUs) op = (s', want)) (hret : retOk want r = true) (hQ' : Q m' s')
    (hE : Ext m m') : ∃ s'', Spec.WsStream.step s op (.ok r (post m m')) = some s'' ∧ R m' s'' := by
  have hw := advance_wire s (m'.state == .closedByUs) op
  rw [hadv] at hw
  obtain ⟨hp, hR'⟩ := finish hR hQ' hE hw.1 hw.2
  refine ⟨_, ?_, hR'⟩
  show (match advance s (m'.state == .closedByUs) op with
    | (s', want) => if (retOk want r && postOk s' (post m m')) = true then some (commit s' (post m m')) else none) = _
  rw [hadv]
  dsimp only
  rw [hret, hp]; rfl

theorem Q_push_write {m : M} {s : S} (h : Q m s) (ha : m.state = .active) {f : OutFrame} (hm : f.masked = true)
    (hc : f.isClose = false) : Q (flush (prepareWrite m f)) (s.push (.frame f)) ∧ Ext m (flush (prepareWrite m f)) := by
  have hf : ({ f with masked := true } : OutFrame) = f := by cases f; cases hm; rfl
  refine ⟨Q_flush ?_, ⟨_, rfl⟩⟩
  unfold prepareWrite
  rw [hf]
  exact Q_push h ha (x := .frame f) (beq_self_eq_true f) h.st (fun _ => hc)

theorem step_refines (m : M) (s : S) (op : Op) (hR : R m s) (hop : OpOk op) :
    ∃ s', Spec.WsStream.step s op (Model.WsStream.step m op).2 = some s' ∧ R (Model.WsStream.step m op).1 s' := by
  have hQ := hR.1
  have hopen := opened_iff hQ
  cases op with
  | peer f =>
    exact accept_of (m' := { m with inq := m.inq ++ [f] }) hR rfl rfl
      ⟨hQ.max, congrArg (· ++ [f]) hQ.inq, hQ.rerr, hQ.eof, hQ.st, hQ.ex, hQ.cl, hQ.nc⟩ (Ext.refl m)
  | eof =>
    exact accept_of (m' := { m with eof := true }) hR rfl rfl
      ⟨hQ.max, hQ.inq, hQ.rerr, rfl, hQ.st, hQ.ex, hQ.cl, hQ.nc⟩ (Ext.refl m)
  | ioerr =>
    exact accept_of (m' := { m with rerr := true }) hR rfl rfl
      ⟨hQ.max, hQ.inq, rfl, hQ.eof, hQ.st, hQ.ex, hQ.cl, hQ.nc⟩ (Ext.refl m)
  | nextFrame async =>
    obtain ⟨m', e, fo, h1, hQ', hE, hG⟩ := nf hQ async
    rw [Model.WsStream.step, h1]
    rcases hrec : receive s with ⟨s1, g⟩
    rw [hrec] at hQ' hG
    have hadv : ∀ cn, advance s cn (.nextFrame async) = readFrame s := fun _ => rfl
    cases g with
    | stop w => exact accept_of hR (by rw [hadv, readFrame, hrec]) hG.2.1 hQ' hE
    | violated => exact accept_of hR (want := .violation []) (by rw [hadv, readFrame, hrec]) hG hQ' hE
    | frame f =>
      obtain ⟨rfl, rfl, -⟩ := hG
      exact accept_of hR (want := .deliverFrame f) (by rw [hadv, readFrame, hrec])
        (by simp only [retOk, beq_self_eq_true, Bool.and_self]) hQ' hE
  | nextMsg async buf =>
    obtain ⟨m', e, a', h1, hE, hQ', hret⟩ :=
      nm async buf (m.inq.length + 2) m s {} none hQ ⟨rfl, .inl ⟨rfl, rfl, rfl⟩⟩ (Nat.zero_le _)
    rw [Model.WsStream.step, h1]
    exact accept_of hR (by rw [advance, hQ.inq]) hret hQ' hE
  | write async ty payload =>
    rw [Model.WsStream.step]
    by_cases hbig : payload.length > m.max
    · rw [write_tooBig m ty hbig]
      exact accept_of hR (s' := s) (want := .refused) (by simp [advance, hQ.max, Nat.not_le.2 hbig]) rfl hQ (Ext.refl m)
    have hfit : payload.length ≤ s.max := hQ.max ▸ Nat.not_lt.1 hbig
    by_cases ha : m.state = .active
    · have hty : ty % 16 = ty := by rcases hop with h | h <;> subst h <;> rfl
      rw [write_active ha ty (Nat.not_lt.1 hbig), hty]
      obtain ⟨hQ', hE⟩ := Q_push_write hQ ha (f := { fin := true, op := ty, masked := true, payload := payload }) rfl
        (by rcases hop with h | h <;> subst h <;> rfl)
      exact accept_of hR (want := .accepted) (by simp [advance, hopen.2 ha, hfit]) rfl hQ' hE
    · have := write_inactive ha ty payload
      rcases hw : write m ty payload with ⟨m', e⟩
      rw [hw] at this
      obtain ⟨he, rfl⟩ := this
      exact accept_of hR (s' := s) (want := .refused) (by simp [advance, mt hopen.1 ha]) (by simp [retOk, he]) hQ (Ext.refl _)
  | writeFrame async fin op payload =>
    rw [Model.WsStream.step]
    by_cases ha : m.state = .active
    · rw [writeFrame_active ha, Nat.mod_eq_of_lt hop.1]
      obtain ⟨hQ', hE⟩ := Q_push_write hQ ha (f := { fin := fin, op := op, masked := true, payload := payload }) rfl
        (by simp [OutFrame.isClose, hop.2])
      exact accept_of hR (want := .accepted) (by simp [advance, hopen.2 ha]) rfl hQ' hE
    · rw [writeFrame_inactive ha]
      exact accept_of hR (s' := s) (want := .refused) (by simp [advance, mt hopen.1 ha]) rfl hQ (Ext.refl m)
  | flush async =>
    exact accept_of hR (m' := flush m) (s' := s) (want := .accepted) rfl rfl (Q_flush hQ) (Ext.flush m)
  | close async code reason =>
    rw [Model.WsStream.step]
    by_cases ha : m.state = .active
    · have hc := Q_close hQ ha code reason
        (x := .frame { fin := true, op := 8, masked := true, payload := u16 code ++ reason }) (beq_self_eq_true _)
      rw [close_active ha] at hc ⊢
      exact accept_of hR (want := .accepted) (by simp [advance, hopen.2 ha]) rfl hc.1 hc.2.1
    · have := close_inactive ha code reason
      rcases hc : close m code reason with ⟨m', e⟩
      rw [hc] at this
      obtain ⟨he, rfl⟩ := this
      exact accept_of hR (s' := s) (want := .refused) (by simp [advance, mt hopen.1 ha]) (by simp [retOk, he]) hQ (Ext.refl _)

end Sonic.Lemmas.WsRefine
