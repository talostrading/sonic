/-
Tie T for the poller bookkeeping of the event loop (C03).

`Sonic.Gen.Poller` is regenerated on every run from `internal/poll_linux.go` (`setRW`, `SetRead`, `SetWrite`, `DelRead`,
`DelWrite`, `Del`; the event mask is a `BitVec 32` with the source's `& |= ^=`, `pending` an `Int` with 64-bit wrap, the
`epoll_ctl` wrappers `add / modify / del` answer from an oracle).  This file proves, for every slot state and every
oracle, what those functions do to the two interest bits and to `pending`, and that this is exactly what the helpers of
the hand-written loop model `Sonic.Model.Loop` (`setRead`, `setWrite`, `delRead`, `delWrite`, `closeObj`, `armTimer`,
`unsetPending`) do to `(evR, evW, pending)`.
-/
import Sonic.Gen.Poller
import Sonic.Lemmas.LoopInv

namespace Sonic.Lemmas.PollerTie
open Sonic.Gen.Poller
open Sonic.Model.Loop
open Sonic.Spec.Loop (ObjKind)

section Bits
variable {n : Nat}

theorem or_and_self (e f : BitVec n) : (e ||| f) &&& f = f := by
  ext i hi
  simp only [BitVec.getElem_and, BitVec.getElem_or]
  cases e[i] <;> cases f[i] <;> rfl

theorem and_xor_distrib_right (x y z : BitVec n) : (x ^^^ y) &&& z = (x &&& z) ^^^ (y &&& z) := by
  ext i hi
  simp only [BitVec.getElem_and, BitVec.getElem_xor, Bool.and_xor_distrib_right]

theorem or_and_other (e f g : BitVec n) (hd : f &&& g = 0) : (e ||| f) &&& g = e &&& g := by
  rw [BitVec.and_or_distrib_right, hd]
  exact BitVec.or_zero

theorem xor_and_self (e f : BitVec n) (h : e &&& f = f) : (e ^^^ f) &&& f = 0 := by
  rw [and_xor_distrib_right, h, BitVec.and_self]
  exact BitVec.xor_self

theorem xor_and_other (e f g : BitVec n) (hd : f &&& g = 0) : (e ^^^ f) &&& g = e &&& g := by
  rw [and_xor_distrib_right, hd]
  exact BitVec.xor_zero

/-- Clearing a flag that is set: `&^` and `^` agree. -/
theorem andnot_eq_xor (e f : BitVec n) (h : e &&& f = f) : e &&& ~~~f = e ^^^ f := by
  ext i hi
  have h2 := congrArg (fun x => x[i]) h
  simp only [BitVec.getElem_and, BitVec.getElem_xor, BitVec.getElem_not] at h2 ⊢
  revert h2
  cases e[i] <;> cases f[i] <;> simp

theorem zero_and (f : BitVec n) : (0 : BitVec n) &&& f = 0 := BitVec.zero_and

end Bits

/-! ### The two flags, as read from the source on this run -/

theorem flags_disjoint : PollerReadEvent &&& PollerWriteEvent = 0 := by decide
theorem flags_disjoint' : PollerWriteEvent &&& PollerReadEvent = 0 := by decide
theorem read_ne_zero : PollerReadEvent ≠ 0 := by decide
theorem write_ne_zero : PollerWriteEvent ≠ 0 := by decide

/-- The answer the next external call gets. -/
def ans (o : List Go.Error) : Go.Error := o.headD Go.Error.nil

theorem ext_eq (s : poller) (f : Ext) (args : List Int) :
    s.ext f args = ({ s with oracle := s.oracle.tail, calls := (f, args) :: s.calls }, ans s.oracle) := rfl

/-! ### The generated functions in closed form

`setRW` is already written for an arbitrary flag; `DelRead` and `DelWrite` are the same text at the two flags (`delRW`).
Everything below is proved once, for a flag `f` (and a second flag `g` disjoint from it), and used at read/write and
write/read. -/

theorem setRW_eq (s : poller) (fd : Int) (f : BitVec 32) :
    s.setRW fd f =
      if s.slot_Events &&& f = f then (s, .nil)
      else
        ({ s with oracle := s.oracle.tail,
                  calls := (if s.slot_Events = 0 then Ext.add else Ext.modify,
                            [fd, Int.ofNat (s.slot_Events ||| f).toNat]) :: s.calls,
                  slot_Events := if ans s.oracle = .nil then s.slot_Events ||| f else s.slot_Events,
                  pending := if ans s.oracle = .nil then Go.add s.pending 1 else s.pending }, ans s.oracle) := by
  unfold poller.setRW
  by_cases hf : s.slot_Events &&& f = f
  · rw [if_neg (not_not_intro hf), if_pos hf]
  · rw [if_pos hf, if_neg hf]
    by_cases h0 : s.slot_Events = 0 <;> by_cases hok : ans s.oracle = .nil <;>
      simp only [ext_eq, h0, hok, if_true, if_false, ne_eq, not_true_eq_false, not_false_eq_true]

theorem SetRead_eq (s : poller) : s.SetRead = s.setRW s.slot_Fd PollerReadEvent := rfl
theorem SetWrite_eq (s : poller) : s.SetWrite = s.setRW s.slot_Fd PollerWriteEvent := rfl

/-- The text of `DelRead` / `DelWrite` with the flag as a parameter. -/
def delRW (self : poller) (flag : BitVec 32) : poller × Go.Error :=
  if ((self.slot_Events &&& flag) = flag) then
    let self := { self with pending := (Go.add self.pending (-1)) }
    let self := { self with slot_Events := (self.slot_Events ^^^ flag) }
    if (self.slot_Events ≠ 0) then
      let call' := (poller.ext self Ext.modify [self.slot_Fd, (Int.ofNat self.slot_Events.toNat)])
      let self := call'.1
      (self, call'.2)
    else
      let call' := (poller.ext self Ext.del [self.slot_Fd])
      let self := call'.1
      (self, call'.2)
  else
    (self, Go.Error.nil)

theorem DelRead_eq (s : poller) : s.DelRead = delRW s PollerReadEvent := rfl
theorem DelWrite_eq (s : poller) : s.DelWrite = delRW s PollerWriteEvent := rfl

theorem delRW_eq (s : poller) (f : BitVec 32) :
    delRW s f =
      if s.slot_Events &&& f = f then
        ({ s with pending := Go.add s.pending (-1), slot_Events := s.slot_Events ^^^ f, oracle := s.oracle.tail,
                  calls := (if s.slot_Events ^^^ f ≠ 0 then (Ext.modify, [s.slot_Fd, Int.ofNat (s.slot_Events ^^^ f).toNat])
                            else (Ext.del, [s.slot_Fd])) :: s.calls }, ans s.oracle)
      else (s, .nil) := by
  unfold delRW
  by_cases hf : s.slot_Events &&& f = f
  · rw [if_pos hf, if_pos hf]
    by_cases h0 : s.slot_Events ^^^ f = 0 <;>
      simp only [ext_eq, h0, if_true, if_false, ne_eq, not_true_eq_false, not_false_eq_true]
  · rw [if_neg hf, if_neg hf]

theorem Del_eq (s : poller) :
    s.Del = (s.DelRead.1.DelWrite.1, if s.DelRead.2 = .nil then s.DelRead.1.DelWrite.2 else .nil) := by
  simp only [poller.Del]
  split <;> rfl

/-- The test the source uses (`events & flag == flag`); `rd` and `wr` are `has` at the two flags. -/
def has (s : poller) (f : BitVec 32) : Bool := decide (s.slot_Events &&& f = f)

def rd (s : poller) : Bool := decide (s.slot_Events &&& PollerReadEvent = PollerReadEvent)
def wr (s : poller) : Bool := decide (s.slot_Events &&& PollerWriteEvent = PollerWriteEvent)

def nbits (s : poller) : Int := (if rd s then 1 else 0) + (if wr s then 1 else 0)

/-- `pending` is an `int64`: the count is at least two steps away from its ends. A hypothesis of the `C03_poller_*`
theorems; the loop model counts in `Int`. -/
def PendOk (s : poller) : Prop := Go.I64MIN + 2 ≤ s.pending ∧ s.pending + 2 ≤ Go.I64MAX
instance (s : poller) : Decidable (PendOk s) := by unfold PendOk; exact inferInstance

theorem has_true {s : poller} {f : BitVec 32} : has s f = true ↔ s.slot_Events &&& f = f := decide_eq_true_iff
theorem has_false {s : poller} {f : BitVec 32} : has s f = false ↔ s.slot_Events &&& f ≠ f := decide_eq_false_iff_not

theorem rd_eq_has (s : poller) : rd s = has s PollerReadEvent := rfl
theorem wr_eq_has (s : poller) : wr s = has s PollerWriteEvent := rfl

theorem rd_wr_of_zero {s : poller} (h : s.slot_Events = 0) : rd s = false ∧ wr s = false := by
  constructor
  · rw [rd_eq_has, has_false, h, zero_and]; exact fun e => read_ne_zero e.symm
  · rw [wr_eq_has, has_false, h, zero_and]; exact fun e => write_ne_zero e.symm

section Flag
variable (s : poller) (fd : Int) {f g : BitVec 32}

theorem setRW_bits (hd : f &&& g = 0) :
    has (s.setRW fd f).1 f = (has s f || decide (ans s.oracle = .nil)) ∧ has (s.setRW fd f).1 g = has s g := by
  rw [setRW_eq]
  cases h : has s f with
  | true => simp only [if_pos (has_true.1 h), h, Bool.true_or, and_self]
  | false =>
    simp only [if_neg (has_false.1 h), Bool.false_or]
    by_cases hok : ans s.oracle = .nil
    · simp only [has, if_pos hok, decide_eq_true hok, or_and_self, or_and_other _ _ _ hd, decide_true, and_self]
    · simp only [if_neg hok, decide_eq_false hok]
      exact ⟨h, rfl⟩

theorem setRW_pending (f : BitVec 32) (h1 : Go.I64MIN ≤ s.pending) (h2 : s.pending + 1 ≤ Go.I64MAX) :
    (s.setRW fd f).1.pending = s.pending + (if has s f = false ∧ ans s.oracle = .nil then 1 else 0) := by
  rw [setRW_eq]
  cases h : has s f with
  | true => simp only [if_pos (has_true.1 h), Bool.true_eq_false, false_and, if_false, Int.add_zero]
  | false =>
    simp only [if_neg (has_false.1 h), true_and]
    split
    · exact Go.wrap64_id ⟨by omega, h2⟩
    · exact (Int.add_zero _).symm

theorem setRW_ok (f : BitVec 32) (hok : ans s.oracle = .nil) : (s.setRW fd f).2 = .nil := by
  rw [setRW_eq]
  by_cases h : s.slot_Events &&& f = f
  · rw [if_pos h]
  · rw [if_neg h]; exact hok

theorem setRW_fail (f : BitVec 32) (hf : ans s.oracle ≠ .nil) :
    (s.setRW fd f).1.slot_Events = s.slot_Events ∧ (s.setRW fd f).1.pending = s.pending ∧
    (has s f = false → (s.setRW fd f).2 = ans s.oracle) := by
  rw [setRW_eq]
  by_cases h : s.slot_Events &&& f = f
  · rw [if_pos h]; exact ⟨rfl, rfl, fun hn => absurd h (has_false.1 hn)⟩
  · rw [if_neg h]; exact ⟨if_neg hf, if_neg hf, fun _ => rfl⟩

theorem delRW_bits (hd : f &&& g = 0) (hf : f ≠ 0) :
    has (delRW s f).1 f = false ∧ has (delRW s f).1 g = has s g := by
  rw [delRW_eq]
  by_cases h : s.slot_Events &&& f = f
  · rw [if_pos h]
    refine ⟨has_false.2 ?_, congrArg (fun e => decide (e = g)) (xor_and_other _ _ _ hd)⟩
    show (s.slot_Events ^^^ f) &&& f ≠ f
    rw [xor_and_self _ _ h]; exact fun e => hf e.symm
  · rw [if_neg h]; exact ⟨has_false.2 h, rfl⟩

theorem delRW_pending (f : BitVec 32) (h1 : Go.I64MIN + 1 ≤ s.pending) (h2 : s.pending ≤ Go.I64MAX) :
    (delRW s f).1.pending = s.pending - (if has s f then 1 else 0) := by
  rw [delRW_eq]
  cases h : has s f with
  | true => simp only [if_pos (has_true.1 h), if_true]; exact Go.wrap64_id ⟨by omega, by omega⟩
  | false => simp only [if_neg (has_false.1 h), Bool.false_eq_true, if_false, Int.sub_zero]

end Flag

/-- What the accounting is about: the two interest bits of one slot and the poller's pending count. -/
structure PView where
  evR : Bool
  evW : Bool
  pending : Int
  deriving DecidableEq, Repr

namespace PView
def setRead (v : PView) : PView := if v.evR then v else { v with evR := true, pending := v.pending + 1 }
def setWrite (v : PView) : PView := if v.evW then v else { v with evW := true, pending := v.pending + 1 }
def delRead (v : PView) : PView := if v.evR then { v with evR := false, pending := v.pending - 1 } else v
def delWrite (v : PView) : PView := if v.evW then { v with evW := false, pending := v.pending - 1 } else v
def del (v : PView) : PView :=
  { evR := false, evW := false, pending := v.pending - ((if v.evR then 1 else 0) + (if v.evW then 1 else 0)) }
theorem del_eq (v : PView) : v.del = v.delRead.delWrite := by
  cases v with
  | mk r w p => cases r <;> cases w <;> simp [del, delRead, delWrite] <;> omega
end PView

def absOf (s : poller) : PView := { evR := rd s, evW := wr s, pending := s.pending }

def viewOf (w : World) (o : Obj) : PView := { evR := o.evR, evW := o.evW, pending := w.pending }

def viewAt (w : World) (k : Nat) : Option PView := (getObj w k).map (viewOf w)

theorem pendOk_of_abs {s : poller} : PendOk s ↔ (Go.I64MIN + 2 ≤ (absOf s).pending ∧ (absOf s).pending + 2 ≤ Go.I64MAX) := Iff.rfl

theorem SetRead_view (s : poller) (hp : PendOk s) (hok : ans s.oracle = .nil) :
    absOf s.SetRead.1 = (absOf s).setRead ∧ s.SetRead.2 = .nil := by
  unfold PendOk at hp
  rw [SetRead_eq]
  obtain ⟨hr, hw⟩ := setRW_bits s s.slot_Fd flags_disjoint
  have hpend := setRW_pending s s.slot_Fd PollerReadEvent (by omega) (by omega)
  refine ⟨?_, setRW_ok s _ _ hok⟩
  cases h : has s PollerReadEvent <;> simp [absOf, PView.setRead, rd_eq_has, wr_eq_has, hr, hw, hpend, hok, h]

theorem SetWrite_view (s : poller) (hp : PendOk s) (hok : ans s.oracle = .nil) :
    absOf s.SetWrite.1 = (absOf s).setWrite ∧ s.SetWrite.2 = .nil := by
  unfold PendOk at hp
  rw [SetWrite_eq]
  obtain ⟨hw, hr⟩ := setRW_bits s s.slot_Fd flags_disjoint'
  have hpend := setRW_pending s s.slot_Fd PollerWriteEvent (by omega) (by omega)
  refine ⟨?_, setRW_ok s _ _ hok⟩
  cases h : has s PollerWriteEvent <;> simp [absOf, PView.setWrite, rd_eq_has, wr_eq_has, hr, hw, hpend, hok, h]

theorem absOf_congr {s s' : poller} (he : s'.slot_Events = s.slot_Events) (hp : s'.pending = s.pending) :
    absOf s' = absOf s := by
  simp only [absOf, rd, wr, he, hp]

theorem Set_fail_view (s : poller) (hf : ans s.oracle ≠ .nil) :
    (absOf s.SetRead.1 = absOf s ∧ (rd s = false → s.SetRead.2 = ans s.oracle)) ∧
    (absOf s.SetWrite.1 = absOf s ∧ (wr s = false → s.SetWrite.2 = ans s.oracle)) := by
  have R := setRW_fail s s.slot_Fd PollerReadEvent hf
  have W := setRW_fail s s.slot_Fd PollerWriteEvent hf
  rw [SetRead_eq, SetWrite_eq]
  exact ⟨⟨absOf_congr R.1 R.2.1, R.2.2⟩, ⟨absOf_congr W.1 W.2.1, W.2.2⟩⟩

theorem DelRead_view (s : poller) (h1 : Go.I64MIN + 1 ≤ s.pending) (h2 : s.pending ≤ Go.I64MAX) :
    absOf s.DelRead.1 = (absOf s).delRead := by
  obtain ⟨hr, hw⟩ := delRW_bits s flags_disjoint read_ne_zero
  cases h : has s PollerReadEvent <;>
    simp [DelRead_eq, absOf, PView.delRead, rd_eq_has, wr_eq_has, hr, hw, delRW_pending s _ h1 h2, h]

theorem DelWrite_view (s : poller) (h1 : Go.I64MIN + 1 ≤ s.pending) (h2 : s.pending ≤ Go.I64MAX) :
    absOf s.DelWrite.1 = (absOf s).delWrite := by
  obtain ⟨hw, hr⟩ := delRW_bits s flags_disjoint' write_ne_zero
  cases h : has s PollerWriteEvent <;>
    simp [DelWrite_eq, absOf, PView.delWrite, rd_eq_has, wr_eq_has, hr, hw, delRW_pending s _ h1 h2, h]

theorem Del_view (s : poller) (hp : PendOk s) : absOf s.Del.1 = (absOf s).del := by
  unfold PendOk at hp
  have hb : s.pending - 1 ≤ s.DelRead.1.pending ∧ s.DelRead.1.pending ≤ s.pending := by
    rw [DelRead_eq, delRW_pending s PollerReadEvent (by omega) (by omega)]
    split <;> omega
  rw [Del_eq, PView.del_eq, ← DelRead_view s (by omega) (by omega)]
  exact DelWrite_view s.DelRead.1 (by omega) (by omega)

/-- All the model's helpers replace the object and set the world's `pending`. -/
theorem viewAt_setObj (w : World) (p : Int) (o o' : Obj) (hg : getObj w o.id = some o) (hid : o'.id = o.id) :
    viewAt (setObj { w with pending := p } o') o.id = some { evR := o'.evR, evW := o'.evW, pending := p } := by
  unfold viewAt
  rw [getObj_setObj (w := { w with pending := p }) o' hg hid]
  rfl

theorem model_setRead_view (w : World) (o : Obj) (op : Nat) (hg : getObj w o.id = some o) :
    viewAt (setRead w o op) o.id = some (viewOf w o).setRead := by
  unfold setRead PView.setRead viewOf
  cases h : o.evR <;> exact viewAt_setObj w _ o _ hg rfl

theorem model_setWrite_view (w : World) (o : Obj) (op : Nat) (hg : getObj w o.id = some o) :
    viewAt (setWrite w o op) o.id = some (viewOf w o).setWrite := by
  unfold setWrite PView.setWrite viewOf
  cases h : o.evW <;> exact viewAt_setObj w _ o _ hg rfl

theorem model_armTimer_view (w : World) (o : Obj) (op : Nat) (rep : Bool) (hg : getObj w o.id = some o) :
    viewAt (armTimer w o op rep) o.id = some (viewOf w o).setRead := by
  unfold armTimer PView.setRead viewOf
  cases h : o.evR <;> exact viewAt_setObj w _ o _ hg rfl

theorem model_delRead_view (w : World) (o : Obj) (hg : getObj w o.id = some o) :
    viewAt (delRead w o) o.id = some (viewOf w o).delRead := by
  unfold delRead PView.delRead viewOf
  cases h : o.evR with
  | true => exact viewAt_setObj w (w.pending - 1) o _ hg rfl
  | false =>
    show (getObj w o.id).map (viewOf w) = _
    rw [hg]; exact congrArg (fun b => some (PView.mk b o.evW w.pending)) h

theorem model_delWrite_view (w : World) (o : Obj) (hg : getObj w o.id = some o) :
    viewAt (delWrite w o) o.id = some (viewOf w o).delWrite := by
  unfold delWrite PView.delWrite viewOf
  cases h : o.evW with
  | true => exact viewAt_setObj w (w.pending - 1) o _ hg rfl
  | false =>
    show (getObj w o.id).map (viewOf w) = _
    rw [hg]; exact congrArg (fun b => some (PView.mk o.evR b w.pending)) h

/-- `closeObj` on anything but a timer is `poller.Del`. -/
theorem model_closeObj_view (w : World) (o : Obj) (hk : o.kind ≠ .timer) (hg : getObj w o.id = some o) :
    viewAt (closeObj w o) o.id = some (viewOf w o).del := by
  unfold closeObj
  rw [if_neg (by simpa using hk)]
  exact viewAt_setObj w _ o _ hg rfl

/-- Closing or cancelling a timer (`internal.Timer.Unset` → `poller.Del`): `unsetPending`, after which the model clears
`evR`. A timer slot never has the write interest. -/
theorem model_unset_view (w : World) (o o' : Obj) (hW : o.evW = false) (hR' : o'.evR = false) (hW' : o'.evW = false) :
    viewOf (unsetPending w o) o' = (viewOf w o).del := by
  simp [viewOf, unsetPending, PView.del, hW, hR', hW']

end Sonic.Lemmas.PollerTie
