/-
"Nothing follows a Close" (`closeLast`) in the two forms C08 states it: at most one Close frame, and no frame behind it.
-/
import Sonic.Lemmas.WsRefine

namespace Sonic.Lemmas.WsFacts
open Sonic.Spec.WsStream Sonic.Model.WsStream Sonic.Lemmas.WsOut

theorem closeLast_count : ∀ {l : List OutFrame}, closeLast l = true → (l.filter OutFrame.isClose).length ≤ 1
  | [], _ => by simp
  | x :: r, h => by
    simp only [closeLast] at h
    by_cases hx : x.isClose = true
    · simp only [hx, if_true, List.isEmpty_iff] at h
      subst h; simp [hx]
    · have hx' : x.isClose = false := by simpa using hx
      simp only [hx', Bool.false_eq_true, if_false] at h
      simp only [List.filter_cons, hx', Bool.false_eq_true, if_false]
      exact closeLast_count h

theorem closeLast_nothing_after : ∀ {l : List OutFrame}, closeLast l = true →
    ∀ pre x post, l = pre ++ x :: post → x.isClose = true → post = []
  | [], _, pre, x, post, he, _ => by simp at he
  | y :: r, h, pre, x, post, he, hx => by
    simp only [closeLast] at h
    cases pre with
    | nil =>
      simp only [List.nil_append, List.cons.injEq] at he
      obtain ⟨hy, hr⟩ := he
      subst hy; subst hr
      simpa [hx] using h
    | cons z pre' =>
      simp only [List.cons_append, List.cons.injEq] at he
      obtain ⟨hy, hr⟩ := he
      by_cases hyc : y.isClose = true
      · simp only [hyc, if_true, List.isEmpty_iff] at h
        subst h; simp at hr
      · have hy' : y.isClose = false := by simpa using hyc
        simp only [hy', Bool.false_eq_true, if_false] at h
        exact closeLast_nothing_after h pre' x post hr hx

end Sonic.Lemmas.WsFacts
