/-
Held completions (C09): an asynchronous write-out of the read area (`ByteBuffer.AsyncWriteTo`) whose writer completes later, with
calls on the buffer in between. Stated over the three-list specification `Sonic.Spec.ByteBuffer` (which the index-level model
refines: `C09_refines`); the implementation side is exercised by the `bytebuffer` direct monitor of the harness (completion held
back, Write / WriteByte / Commit in between, byte-list oracle).
-/
import Sonic.Spec.ByteBuffer

namespace Sonic.Lemmas.ByteBufferHeld
open Sonic.Spec.ByteBuffer

/-- Calls that may be made while an asynchronous write-out of the read area is in flight without moving the bytes handed to the
writer: they only append to the write area or move bytes from it to the end of the read area. -/
def HeldOk : Op → Prop
  | .commit _ | .write _ | .writeByte _ | .writeString _ => True
  | _ => False

/-- The completion of the write-out: the `n` bytes that were handed to the writer leave the read area. -/
def completed (s : S) (n : Nat) : S := { s with readable := s.readable.drop n }

def runEff : S → List Op → Option S
  | s, [] => some s
  | s, op :: r => match eff s op with
      | some (s', _) => runEff s' r
      | none => none

theorem held_eff {s s' : S} {r : Ret} {op : Op} (hop : HeldOk op) (h : eff s op = some (s', r)) :
    ∃ X P, s' = { s with readable := s.readable ++ X, pending := P } ∧
      ∀ rd, eff { s with readable := rd } op = some ({ s with readable := rd ++ X, pending := P }, r) := by
  cases op with
  | commit n => cases h; exact ⟨_, _, rfl, fun _ => rfl⟩
  | write bs => cases h; exact ⟨[], _, by rw [List.append_nil], fun rd => by rw [List.append_nil]; rfl⟩
  | writeByte x => cases h; exact ⟨[], _, by rw [List.append_nil], fun rd => by rw [List.append_nil]; rfl⟩
  | writeString bs => cases h; exact ⟨[], _, by rw [List.append_nil], fun rd => by rw [List.append_nil]; rfl⟩
  | _ => exact hop.elim

theorem held_step (s s' : S) (r : Ret) (op : Op) (n : Nat) (hop : HeldOk op) (hn : n ≤ s.readable.length)
    (h : eff s op = some (s', r)) :
    eff (completed s n) op = some (completed s' n, r) ∧ n ≤ s'.readable.length := by
  obtain ⟨X, P, rfl, hE⟩ := held_eff hop h
  refine ⟨?_, by show n ≤ (s.readable ++ X).length; rw [List.length_append]; omega⟩
  show eff { s with readable := s.readable.drop n } op = some ({ s with readable := (s.readable ++ X).drop n, pending := P }, r)
  rw [hE, List.drop_append_of_le_length hn]

theorem held_prefix (s s' : S) (r : Ret) (op : Op) (n : Nat) (hop : HeldOk op) (hn : n ≤ s.readable.length)
    (h : eff s op = some (s', r)) : s'.readable.take n = s.readable.take n ∧ s'.saved = s.saved := by
  obtain ⟨X, P, rfl, _⟩ := held_eff hop h
  exact ⟨List.take_append_of_le_length hn, rfl⟩

/-- **A write-out whose completion is held back** (AsyncWriteTo over a writer that completes later): whatever calls of the
`HeldOk` kind are made in between, completing afterwards is the same as completing first — the `n` bytes handed to the writer
are still the first `n` bytes of the read area when the completion arrives, they are what leaves, everything committed meanwhile
stays readable in order, and the save area is untouched. -/
theorem held_completion_commutes (ops : List Op) (s s1 : S) (n : Nat) (hops : ∀ op ∈ ops, HeldOk op)
    (hn : n ≤ s.readable.length) (h : runEff s ops = some s1) :
    runEff (completed s n) ops = some (completed s1 n) ∧ s1.readable.take n = s.readable.take n ∧ s1.saved = s.saved := by
  induction ops generalizing s with
  | nil => simp [runEff] at h ⊢; subst h; simp
  | cons op r ih =>
    simp only [runEff] at h ⊢
    cases he : eff s op with
    | none => simp [he] at h
    | some p =>
      obtain ⟨s', ret⟩ := p
      simp only [he] at h
      have hop := hops op (by simp)
      obtain ⟨h1, h2⟩ := held_step s s' ret op n hop hn he
      obtain ⟨h3, h4⟩ := held_prefix s s' ret op n hop hn he
      obtain ⟨i1, i2, i3⟩ := ih s' (fun o ho => hops o (by simp [ho])) h2 h
      simp only [h1]
      exact ⟨i1, by rw [i2, h3], by rw [i3, h4]⟩

example : runEff { saved := [9], readable := [1, 2], pending := [3, 4], cap := 16 } [.write [5], .commit 2, .writeByte 6]
    = some { saved := [9], readable := [1, 2, 3, 4], pending := [5, 6], cap := 16 } := by decide

end Sonic.Lemmas.ByteBufferHeld
