/-
Invariant of the stream write-path model (`Model/WsWritePath.lean`): the concatenation of all frames ever queued, in
submission order, equals the bytes the transport has accepted so far, followed by the unwritten rest of the frame
in flight, followed by the frames still pending. Hence the wire is always a prefix of the submitted frames in order,
each frame complete before the next one starts.
-/
import Sonic.Model.WsWritePath
import Sonic.Lemmas.WsDecode

namespace Sonic.Model.WsWritePath
open Sonic.Model.WsBuf Sonic.Model.WsFrame

/-- The unwritten rest of the frame in flight. -/
def WS.rem (s : WS) : List UInt8 := match s.inflight with | some w => w.bytes.drop w.done | none => []

def WS.Inv (s : WS) : Prop :=
  s.hist.flatten = s.out ++ s.rem ++ s.pending.flatten ∧
  (∀ w, s.inflight = some w → w.done ≤ w.bytes.length) ∧
  (s.flushing = false → s.inflight = none)

/-- Nothing queued, nothing in flight. -/
def WS.Quiescent (s : WS) : Prop := s.pending = [] ∧ s.inflight = none

theorem inv_quiescent {s : WS} (h : s.Inv) (hq : s.Quiescent) : s.out = s.hist.flatten := by
  obtain ⟨h1, _, _⟩ := h
  obtain ⟨hp, hi⟩ := hq
  unfold WS.rem at h1
  rw [hp, hi] at h1
  simpa using h1.symm

theorem inv_prefix {s : WS} (h : s.Inv) : s.out <+: s.hist.flatten := by
  obtain ⟨h1, _, _⟩ := h
  rw [h1, List.append_assoc]
  exact List.prefix_append _ _

theorem init_inv (max : Int) : (WS.init max).Inv := ⟨rfl, (fun w h => by cases h), fun _ => rfl⟩

/-- The fold of `flushSync` from any starting pair; its step function is a local lambda of the definition, so it is written
out here. -/
theorem flushSync_aux : ∀ (frs : List (List UInt8)) (s : WS) (o : Out) (s' : WS) (o' : Out),
    frs.foldlM (init := (s, o)) (fun (p : WS × Out) fr =>
      match writeAll (fr.length + p.1.plan.length + 1) p.1.plan fr [] with
      | none => none
      | some (plan', segs) => some ({ p.1 with plan := plan', out := p.1.out ++ fr }, { p.2 with wire := p.2.wire ++ fr, segs := p.2.segs ++ segs }))
      = some (s', o') →
    s'.out = s.out ++ frs.flatten ∧ o'.wire = o.wire ++ frs.flatten ∧ s'.pending = s.pending ∧ s'.hist = s.hist ∧
    s'.inflight = s.inflight ∧ s'.flushing = s.flushing ∧ s'.max = s.max ∧ s'.active = s.active ∧ o'.res = o.res ∧ o'.cbs = o.cbs := by
  intro frs
  induction frs with
  | nil =>
    intro s o s' o' h
    simp only [List.foldlM_nil, pure, Option.some.injEq, Prod.mk.injEq] at h
    obtain ⟨rfl, rfl⟩ := h
    simp
  | cons fr rest ih =>
    intro s o s' o' h
    simp only [List.foldlM_cons] at h
    cases hw : writeAll (fr.length + s.plan.length + 1) s.plan fr [] with
    | none => simp [hw, bind, Option.bind] at h
    | some r =>
      obtain ⟨plan', segs⟩ := r
      simp only [hw, bind, Option.bind] at h
      have := ih _ _ s' o' h
      dsimp only at this
      obtain ⟨a1, a2, a3, a4, a5, a6, a7, a8, a9, a10⟩ := this
      refine ⟨?_, ?_, a3, a4, a5, a6, a7, a8, a9, a10⟩
      · rw [a1]; simp [List.append_assoc]
      · rw [a2]; simp [List.append_assoc]

theorem flushSync_spec {s : WS} {o : Out} {s' : WS} {o' : Out} (h : flushSync s o = some (s', o')) :
    s'.out = s.out ++ s.pending.flatten ∧ o'.wire = o.wire ++ s.pending.flatten ∧ s'.pending = [] ∧ s'.hist = s.hist ∧
    s'.inflight = s.inflight ∧ s'.flushing = s.flushing ∧ s'.max = s.max ∧ s'.active = s.active ∧ o'.res = o.res ∧ o'.cbs = o.cbs := by
  unfold flushSync at h
  exact flushSync_aux s.pending { s with pending := [] } o s' o' h

theorem flushSync_inv {s : WS} {o : Out} {s' : WS} {o' : Out} (hI : s.Inv) (hq : s.inflight = none)
    (h : flushSync s o = some (s', o')) : s'.Inv ∧ s'.Quiescent := by
  obtain ⟨a1, -, a3, a4, a5, -⟩ := flushSync_spec h
  obtain ⟨h1, -, -⟩ := hI
  have hrem : s.rem = [] := by unfold WS.rem; rw [hq]
  have hrem' : s'.rem = [] := by unfold WS.rem; rw [a5, hq]
  refine ⟨⟨?_, ?_, ?_⟩, a3, by rw [a5, hq]⟩
  · rw [a4, h1, a1, hrem, hrem', a3]; simp
  · intro w hw; rw [a5, hq] at hw; cases hw
  · intro _; rw [a5, hq]

theorem flushSync_done {s s' : WS} {o o' : Out} (hI : s.Inv) (hnf : ¬ (s.inflight.isSome = true ∨ s.flushing = true))
    (h : ((flushSync s o).map fun (s, o) => (s, { o with res := some Err.nil })) = some (s', o')) :
    s'.Inv ∧ s'.Quiescent ∧ s'.hist = s.hist ∧ s'.max = s.max ∧ o'.res = some .nil := by
  have hnone : s.inflight = none := by
    cases hi : s.inflight with
    | none => rfl
    | some w => exact absurd (Or.inl (by rw [hi]; rfl)) hnf
  cases hfs : flushSync s o with
  | none => rw [hfs] at h; cases h
  | some r =>
    obtain ⟨s2, o2⟩ := r
    rw [hfs] at h
    simp only [Option.map_some, Option.some.injEq, Prod.mk.injEq] at h
    obtain ⟨rfl, rfl⟩ := h
    obtain ⟨hi2, hq2⟩ := flushSync_inv hI hnone hfs
    obtain ⟨_, _, _, a4, _, _, a7, _⟩ := flushSync_spec hfs
    exact ⟨hi2, hq2, a4, a7, rfl⟩

theorem pumpWrite_spec : ∀ (fuel : Nat) (plan : List Nat) (w : InFlight) (segs : List Nat), w.done ≤ w.bytes.length →
    let r := pumpWrite fuel plan w segs
    r.2.1.bytes = w.bytes ∧ w.done ≤ r.2.1.done ∧ r.2.1.done ≤ w.bytes.length ∧ (r.2.2.2 = true → r.2.1.done = w.bytes.length) := by
  intro fuel
  induction fuel with
  | zero => intro plan w segs h; simp [pumpWrite, h]
  | succ fuel ih =>
    intro plan w segs h
    unfold pumpWrite
    have hacc : (accept plan (w.bytes.length - w.done)).1 ≤ w.bytes.length - w.done := by
      unfold accept; cases plan with
      | nil => exact Nat.le_refl _
      | cons p rest => exact Nat.min_le_left _ _
    dsimp only
    split
    · rename_i hc
      dsimp only
      exact ⟨rfl, by omega, by omega, fun _ => hc⟩
    · split
      · dsimp only
        exact ⟨rfl, by omega, by omega, fun hc => by cases hc⟩
      · have := ih (accept plan (w.bytes.length - w.done)).2 { w with done := w.done + (accept plan (w.bytes.length - w.done)).1 }
          (segs ++ [(accept plan (w.bytes.length - w.done)).1]) (by dsimp only; omega)
        dsimp only at this
        obtain ⟨b1, b2, b3, b4⟩ := this
        exact ⟨b1, by omega, b3, b4⟩

theorem flushing_of_inflight {s : WS} (hI : s.Inv) {w : InFlight} (h : s.inflight = some w) : s.flushing = true := by
  obtain ⟨_, _, h3⟩ := hI
  cases hf : s.flushing with
  | true => rfl
  | false => rw [h3 hf] at h; cases h

theorem asyncRun_inv : ∀ (fuel : Nat) (s : WS) (o : Out) (start : Bool), s.Inv →
    (start = true → s.inflight = none ∧ s.flushing = true) →
    (asyncRun fuel s o start).1.Inv ∧ (asyncRun fuel s o start).1.hist = s.hist ∧ (asyncRun fuel s o start).1.max = s.max ∧
    (asyncRun fuel s o start).1.active = s.active := by
  intro fuel
  induction fuel with
  | zero => intro s o start hI _; exact ⟨hI, rfl, rfl, rfl⟩
  | succ fuel ih =>
    intro s o start hI hst
    have hI' := hI
    obtain ⟨h1, h2, h3⟩ := hI'
    unfold asyncRun
    cases start with
    | true =>
      obtain ⟨hnone, hfl⟩ := hst rfl
      have hrem : s.rem = [] := by unfold WS.rem; rw [hnone]
      simp only [if_true]
      cases hp : s.pending with
      | nil =>
        dsimp only
        refine ⟨⟨?_, ?_, ?_⟩, rfl, rfl, rfl⟩
        · show s.hist.flatten = s.out ++ s.rem ++ ([] : List (List UInt8)).flatten
          rw [h1, hp]
        · intro w hw; exact h2 w hw
        · intro _; exact hnone
      | cons fr rest =>
        dsimp only
        have hI1 : ({ s with pending := rest, inflight := some { bytes := fr, done := 0 } } : WS).Inv := by
          refine ⟨?_, ?_, ?_⟩
          · show s.hist.flatten = s.out ++ fr.drop 0 ++ rest.flatten
            rw [h1, hrem, hp]; simp
          · intro w hw; cases hw; exact Nat.zero_le _
          · intro hf; rw [hfl] at hf; cases hf
        by_cases hd : s.deferW = true
        · rw [if_pos hd]; exact ⟨hI1, rfl, rfl, rfl⟩
        · rw [if_neg hd]
          exact ih _ o false hI1 (fun h => by cases h)
    | false =>
      simp only [Bool.false_eq_true, if_false]
      cases hi : s.inflight with
      | none => exact ⟨hI, rfl, rfl, rfl⟩
      | some w =>
        dsimp only
        have hwd := h2 w hi
        have hfl := flushing_of_inflight hI hi
        obtain ⟨p1, p2, p3, p4⟩ := pumpWrite_spec (w.bytes.length + s.plan.length + 1) s.plan w [] hwd
        generalize pumpWrite (w.bytes.length + s.plan.length + 1) s.plan w [] = r at p1 p2 p3 p4
        obtain ⟨plan', w', segs, complete⟩ := r
        dsimp only at p1 p2 p3 p4 ⊢
        have hrem : s.rem = w.bytes.drop w.done := by unfold WS.rem; rw [hi]
        have hsplit : w.bytes.drop w.done = (w.bytes.drop w.done).take (w'.done - w.done) ++ w.bytes.drop w'.done := by
          conv => lhs; rw [← List.take_append_drop (w'.done - w.done) (w.bytes.drop w.done)]
          rw [List.drop_drop, show w.done + (w'.done - w.done) = w'.done by omega]
        cases complete with
        | true =>
          simp only [if_true]
          have hdone := p4 rfl
          have hI2 : ({ s with plan := plan', inflight := none, out := s.out ++ (w.bytes.drop w.done).take (w'.done - w.done) } : WS).Inv := by
            refine ⟨?_, ?_, ?_⟩
            · show s.hist.flatten = (s.out ++ (w.bytes.drop w.done).take (w'.done - w.done)) ++ [] ++ s.pending.flatten
              have ht : (w.bytes.drop w.done).take (w'.done - w.done) = w.bytes.drop w.done :=
                List.take_of_length_le (by rw [List.length_drop]; omega)
              rw [h1, hrem, ht]; simp
            · intro w0 hw0; cases hw0
            · intro _; rfl
          have := ih _ { o with wire := o.wire ++ (w.bytes.drop w.done).take (w'.done - w.done), segs := o.segs ++ segs } true hI2
            (fun _ => ⟨rfl, hfl⟩)
          exact this
        | false =>
          simp only [Bool.false_eq_true, if_false]
          refine ⟨⟨?_, ?_, ?_⟩, trivial, trivial, trivial⟩
          · show s.hist.flatten = (s.out ++ (w.bytes.drop w.done).take (w'.done - w.done)) ++ w'.bytes.drop w'.done ++ s.pending.flatten
            rw [h1, hrem, p1]
            conv => lhs; rw [hsplit]
            simp
          · intro w0 hw0; cases hw0; rw [p1]; exact p3
          · intro hf; rw [hfl] at hf; cases hf

theorem asyncFlush_inv {s : WS} (o : Out) (id : Nat) (hI : s.Inv) :
    (asyncFlush s o id).1.Inv ∧ (asyncFlush s o id).1.hist = s.hist ∧ (asyncFlush s o id).1.max = s.max ∧
    (asyncFlush s o id).1.active = s.active := by
  obtain ⟨h1, h2, h3⟩ := hI
  unfold asyncFlush
  by_cases hf : s.flushing = true
  · rw [if_pos hf]
    exact ⟨⟨h1, h2, h3⟩, rfl, rfl, rfl⟩
  · rw [if_neg hf]
    have hf' : s.flushing = false := by simpa using hf
    have hI1 : ({ s with flushing := true, owner := id } : WS).Inv := ⟨h1, h2, fun h => by cases h⟩
    exact asyncRun_inv _ _ o true hI1 (fun _ => ⟨h3 hf', rfl⟩)

theorem asyncRun_res : ∀ (fuel : Nat) (s : WS) (o : Out) (start : Bool), (asyncRun fuel s o start).2.res = o.res := by
  intro fuel
  induction fuel with
  | zero => intro s o start; rfl
  | succ fuel ih =>
    intro s o start
    unfold asyncRun
    cases start with
    | true =>
      simp only [if_true]
      cases s.pending with
      | nil => rfl
      | cons fr rest =>
        dsimp only
        split
        · rfl
        · exact ih _ _ _
    | false =>
      simp only [Bool.false_eq_true, if_false]
      cases s.inflight with
      | none => rfl
      | some w =>
        dsimp only
        split
        · rw [ih]
        · rfl

theorem asyncFlush_res (s : WS) (o : Out) (id : Nat) : (asyncFlush s o id).2.res = o.res := by
  unfold asyncFlush
  split
  · rfl
  · exact asyncRun_res _ _ _ _

/-- Scripts: every operation gets its index as callback id; `none` = the script left the modelled usage (see `step`). -/
def runOps : WS → Nat → List WOp → M (Option WS)
  | s, _, [] => pure (some s)
  | s, id, op :: rest => do
      match (← step s id op) with
      | none => pure none
      | some (s', _) => runOps s' (id + 1) rest

theorem submit_inv {s : WS} (o : Out) (async : Bool) (id : Nat) (fr : List UInt8) (hI : s.Inv) {s' : WS} {o' : Out}
    (h : submit s o async id fr = some (s', o')) :
    s'.Inv ∧ s'.hist = s.hist ++ [fr] ∧ s'.max = s.max ∧ (async = false → s'.Quiescent ∧ o'.res = some .nil) ∧
    (async = true → o'.res = o.res) := by
  have hI' := hI
  obtain ⟨h1, h2, h3⟩ := hI'
  have hI1 : ({ s with pending := s.pending ++ [fr], hist := s.hist ++ [fr] } : WS).Inv := by
    refine ⟨?_, h2, h3⟩
    show (s.hist ++ [fr]).flatten = s.out ++ s.rem ++ (s.pending ++ [fr]).flatten
    rw [List.flatten_append, List.flatten_append, h1]; simp [List.append_assoc]
  unfold submit at h
  dsimp only at h
  cases async with
  | true =>
    simp only [if_true, Option.some.injEq] at h
    have := asyncFlush_inv o id hI1
    have hr := asyncFlush_res { s with pending := s.pending ++ [fr], hist := s.hist ++ [fr] } o id
    rw [h] at this hr
    exact ⟨this.1, this.2.1, this.2.2.1, (fun hc => by cases hc), fun _ => hr⟩
  | false =>
    simp only [Bool.false_eq_true, if_false] at h
    split at h
    · cases h
    · rename_i hnf
      obtain ⟨i1, i2, i3, i4, i5⟩ := flushSync_done hI1 hnf h
      exact ⟨i1, i3, i4, (fun _ => ⟨i2, i5⟩), fun hc => by cases hc⟩

end Sonic.Model.WsWritePath
