/-
Descriptor tables under a resource path: if the abstract interpreter `ResPath.run` accepts a path and ends with the
live set `live`, then for *every* initial descriptor table `T` the concrete interpretation with lowest-free allocation
succeeds and ends with `T` plus descriptors that each belong to one live resource (`FdInv`, `runFds_inv`).  In particular a
failure path that ends with nothing live leaves the table exactly as it found it (`runFds_restores`).
-/
import Sonic.Lemmas.ResTable

namespace Sonic.Model.Resources
open Sonic.Model.ResPath

/-- `T0`: the descriptor table at the start; `st.1`: the table now; `st.2`: the pairs (resource id, descriptor) acquired
since; `live`: the live set of `ResPath.run` on the same path. -/
structure FdInv (T0 : List Nat) (st : List Nat × List (Nat × Nat)) (live : List Nat) : Prop where
  mem   : ∀ x, x ∈ st.1 ↔ x ∈ T0 ∨ ∃ r, (r, x) ∈ st.2
  fresh : ∀ r x, (r, x) ∈ st.2 → x ∉ T0
  keyf  : ∀ r x y, (r, x) ∈ st.2 → (r, y) ∈ st.2 → x = y
  valf  : ∀ r s x, (r, x) ∈ st.2 → (s, x) ∈ st.2 → r = s
  sub   : ∀ r x, (r, x) ∈ st.2 → r ∈ live

theorem FdInv.mono {T0 st live live'} (h : FdInv T0 st live) (hl : ∀ r, r ∈ live → r ∈ live') : FdInv T0 st live' :=
  { h with sub := fun r x hm => hl r (h.sub r x hm) }

theorem FdInv.cons {T0 st live} (h : FdInv T0 st live) (r : Nat) : FdInv T0 st (r :: live) :=
  h.mono fun _ hz => List.mem_cons_of_mem _ hz

theorem acqFd_inv {T0 st live} (r : Nat) (h : FdInv T0 st live) (hr : r ∉ live) :
    ∃ st', acqFd st r = some st' ∧ FdInv T0 st' (r :: live) := by
  have hno : (st.2.any (·.1 == r)) = false := by
    apply List.any_eq_false.2
    intro e he hk
    have : e.1 = r := by simpa using hk
    exact hr (this ▸ h.sub e.1 e.2 he)
  have hfree : lowestFree st.1 ∉ st.1 := by simpa using lowestFree_not_mem st.1
  refine ⟨(lowestFree st.1 :: st.1, (r, lowestFree st.1) :: st.2), by simp [acqFd, hno], ?_⟩
  have hnT : lowestFree st.1 ∉ T0 := fun hm => hfree ((h.mem _).2 (Or.inl hm))
  have hnb : ∀ s, (s, lowestFree st.1) ∉ st.2 := fun s hm => hfree ((h.mem _).2 (Or.inr ⟨s, hm⟩))
  have hnk : ∀ x, (r, x) ∉ st.2 := fun x hm => hr (h.sub r x hm)
  refine {
    mem := fun x => ?_
    fresh := fun s x hm => ?_
    keyf := fun s x y hx hy => ?_
    valf := fun s t x hx hy => ?_
    sub := fun s x hm => ?_ }
  · simp only [List.mem_cons, Prod.mk.injEq]
    constructor
    · rintro (rfl | hx)
      · exact Or.inr ⟨r, Or.inl ⟨rfl, rfl⟩⟩
      · rcases (h.mem x).1 hx with h1 | ⟨s, h1⟩
        · exact Or.inl h1
        · exact Or.inr ⟨s, Or.inr h1⟩
    · rintro (h1 | ⟨s, ⟨_, rfl⟩ | h1⟩)
      · exact Or.inr ((h.mem x).2 (Or.inl h1))
      · exact Or.inl rfl
      · exact Or.inr ((h.mem x).2 (Or.inr ⟨s, h1⟩))
  · simp only [List.mem_cons, Prod.mk.injEq] at hm
    rcases hm with ⟨_, rfl⟩ | hm
    · exact hnT
    · exact h.fresh s x hm
  · simp only [List.mem_cons, Prod.mk.injEq] at hx hy
    rcases hx with ⟨rfl, rfl⟩ | hx <;> rcases hy with ⟨h1, rfl⟩ | hy
    · rfl
    · exact absurd hy (hnk y)
    · exact absurd (h1 ▸ hx) (hnk x)
    · exact h.keyf s x y hx hy
  · simp only [List.mem_cons, Prod.mk.injEq] at hx hy
    rcases hx with ⟨rfl, rfl⟩ | hx <;> rcases hy with ⟨rfl, h2⟩ | hy
    · rfl
    · exact absurd hy (hnb t)
    · exact absurd (h2 ▸ hx) (hnb s)
    · exact h.valf s t x hx hy
  · simp only [List.mem_cons, Prod.mk.injEq] at hm
    rcases hm with ⟨rfl, _⟩ | hm
    · exact List.mem_cons_self
    · exact List.mem_cons_of_mem _ (h.sub s x hm)

theorem acqAll_inv {T0} : ∀ (rs : List (Nat × Cls)) (st : List Nat × List (Nat × Nat)) (live : List Nat), FdInv T0 st live →
    (∀ x ∈ rs, x.1 ∉ live) → ResPath.distinct (rs.map (·.1)) = true →
    ∃ st', acqAll st rs = some st' ∧ FdInv T0 st' (rs.map (·.1) ++ live)
  | [], st, live, h, _, _ => ⟨st, rfl, by simpa using h⟩
  | (r, c) :: rest, st, live, h, hn, hd => by
    simp only [List.map_cons, ResPath.distinct, Bool.and_eq_true, Bool.not_eq_true'] at hd
    have hrn : r ∉ live := hn (r, c) List.mem_cons_self
    have hrest : ∀ x ∈ rest, x.1 ∉ r :: live := fun x hx hm => by
      rcases List.mem_cons.1 hm with h1 | h1
      · exact Bool.false_ne_true (hd.1.symm.trans (List.contains_iff_mem.2 (List.mem_map.2 ⟨x, hx, h1⟩)))
      · exact hn x (List.mem_cons_of_mem _ hx) h1
    -- only a descriptor-class resource touches the table
    have ⟨st1, h1, hI1⟩ : ∃ st1, acqAll st ((r, c) :: rest) = acqAll st1 rest ∧ FdInv T0 st1 (r :: live) := by
      cases c with
      | fd =>
        obtain ⟨st1, h1, hI1⟩ := acqFd_inv r h hrn
        exact ⟨st1, by simp only [acqAll, h1], hI1⟩
      | path | mapping => exact ⟨st, rfl, h.cons r⟩
    obtain ⟨st2, h2, hI2⟩ := acqAll_inv rest st1 (r :: live) hI1 hrest hd.2
    exact ⟨st2, h1.trans h2, hI2.mono fun _ => List.perm_middle.mem_iff.1⟩

theorem stepFd_inv {T0 st live live'} (e : Ev) (h : FdInv T0 st live) (hs : stepEv live e = some live') :
    ∃ st', stepFd st e = some st' ∧ FdInv T0 st' live' := by
  cases e with
  | acquire r c via =>
    simp only [stepEv] at hs
    split at hs
    · cases hs
    · rename_i hc
      cases hs
      have hr : r ∉ live := by simpa using hc
      cases c with
      | fd => exact acqFd_inv r h hr
      | path | mapping => exact ⟨st, rfl, h.cons r⟩
  | call callee name rs =>
    simp only [stepEv] at hs
    split at hs
    · cases hs
    · rename_i hc
      cases hs
      simp only [Bool.or_eq_true, Bool.not_eq_true', not_or, Bool.not_eq_false] at hc
      have hn : ∀ x ∈ rs, x.1 ∉ live := by
        intro x hx hm
        have := hc.1
        simp only [List.any_eq_true, not_exists, not_and] at this
        exact this x.1 (List.mem_map.2 ⟨x, hx, rfl⟩) (by simpa using hm)
      exact acqAll_inv rs st live h hn hc.2
  | release r via =>
    simp only [stepEv] at hs
    split at hs
    · rename_i hc
      cases hs
      simp only [stepFd]
      cases hf : st.2.find? (·.1 == r) with
      | none =>
        refine ⟨st, rfl, { h with sub := fun s x hm => ?_ }⟩
        have hne : s ≠ r := by
          intro hsr
          have := List.find?_eq_none.1 hf (s, x) hm
          simp [hsr] at this
        exact (List.mem_erase_of_ne hne).2 (h.sub s x hm)
      | some e =>
        have hem := List.mem_of_find?_eq_some hf
        have hek : e.1 = r := by simpa using List.find?_some hf
        refine ⟨_, rfl, {
          mem := fun x => ?_
          fresh := fun s x hm => h.fresh s x (List.mem_filter.1 hm).1
          keyf := fun s x y hx hy => h.keyf s x y (List.mem_filter.1 hx).1 (List.mem_filter.1 hy).1
          valf := fun s t x hx hy => h.valf s t x (List.mem_filter.1 hx).1 (List.mem_filter.1 hy).1
          sub := fun s x hm => ?_ }⟩
        · simp only [List.mem_filter, bne_iff_ne, ne_eq]
          constructor
          · rintro ⟨hx, hne⟩
            rcases (h.mem x).1 hx with h1 | ⟨s, h1⟩
            · exact Or.inl h1
            · exact Or.inr ⟨s, h1, fun hsr => hne (h.keyf r x e.2 (hsr ▸ h1) (hek ▸ hem))⟩
          · rintro (h1 | ⟨s, h1, hsr⟩)
            · exact ⟨(h.mem x).2 (Or.inl h1), fun hxe => h.fresh e.1 e.2 hem (hxe ▸ h1)⟩
            · exact ⟨(h.mem x).2 (Or.inr ⟨s, h1⟩), fun hxe => hsr ((h.valf s e.1 x h1 (hxe ▸ hem)).trans hek)⟩
        · obtain ⟨hm, hne⟩ := List.mem_filter.1 hm
          exact (List.mem_erase_of_ne (by simpa using hne)).2 (h.sub s x hm)
    · cases hs
  | releaseInvalid | step | mark => simp only [stepEv] at hs; cases hs; exact ⟨st, rfl, h⟩

theorem runFds_inv {T0} : ∀ (evs : List Ev) (st : List Nat × List (Nat × Nat)) (live live' : List Nat), FdInv T0 st live →
    ResPath.run live evs = some live' → ∃ st', runFds st evs = some st' ∧ FdInv T0 st' live'
  | [], st, live, live', h, hr => by simp only [ResPath.run] at hr; cases hr; exact ⟨st, rfl, h⟩
  | e :: r, st, live, live', h, hr => by
    simp only [ResPath.run] at hr
    cases hs : stepEv live e with
    | none => simp [hs] at hr
    | some l1 =>
      simp only [hs] at hr
      obtain ⟨st1, h1, hI1⟩ := stepFd_inv e h hs
      obtain ⟨st2, h2, hI2⟩ := runFds_inv r st1 l1 live' hI1 hr
      exact ⟨st2, by simp only [runFds, h1, h2], hI2⟩

theorem runFds_restores (evs : List Ev) (h : ResPath.run [] evs = some []) (T : List Nat) :
    ∃ T', runFds (T, []) evs = some (T', []) ∧ ∀ x, x ∈ T' ↔ x ∈ T := by
  have h0 : FdInv T (T, []) [] :=
    { mem := fun x => by simp
      fresh := by intro r x hm; cases hm
      keyf := by intro r x y hm; cases hm
      valf := by intro r s x hm; cases hm
      sub := by intro r x hm; cases hm }
  obtain ⟨st', hrun, hI⟩ := runFds_inv evs (T, []) [] [] h0 h
  have hb : st'.2 = [] := by
    cases hb : st'.2 with
    | nil => rfl
    | cons e r =>
      have := hI.sub e.1 e.2 (by rw [hb]; exact List.mem_cons_self)
      cases this
  refine ⟨st'.1, ?_, ?_⟩
  · rw [hrun]; congr 1; exact Prod.ext rfl hb
  · intro x
    have := hI.mem x
    rw [hb] at this
    simpa using this

end Sonic.Model.Resources
