/-
The cell lists of the queue monitors (`Spec.Bip.cells lo len` = the cells `lo, lo + 1, …` of a region; also used by the
ring of `Spec.Mirrored`): membership, length, splitting and dropping, and the first contiguous run `runLen` of a queue;
before them `imin` as an `if` and as a case distinction.
-/
import Sonic.Spec.Bip
namespace Sonic.Spec.Bip

theorem imin_eq (a b : Int) : imin a b = if a ≤ b then a else b := rfl

theorem imin_cases (a b : Int) : (imin a b = a ∧ a ≤ b) ∨ (imin a b = b ∧ b < a) := by
  unfold imin; split <;> omega

theorem mem_cells {c lo len : Int} : c ∈ cells lo len ↔ lo ≤ c ∧ c < lo + len := by
  unfold cells
  simp only [List.mem_map, List.mem_range]
  constructor
  · rintro ⟨i, hi, rfl⟩; omega
  · intro h; exact ⟨(c - lo).toNat, by omega, by omega⟩

@[simp] theorem length_cells (lo len : Int) : (cells lo len).length = len.toNat := by
  simp [cells]

theorem cells_nonpos {lo len : Int} (h : len ≤ 0) : cells lo len = [] := by
  unfold cells
  have : len.toNat = 0 := by omega
  simp [this]

theorem cells_succ {lo len : Int} (h : 0 < len) : cells lo len = lo :: cells (lo + 1) (len - 1) := by
  unfold cells
  obtain ⟨k, hk⟩ : ∃ k : Nat, len.toNat = k + 1 := ⟨len.toNat - 1, by omega⟩
  have h2 : (len - 1).toNat = k := by omega
  rw [hk, h2, List.range_succ_eq_map]
  simp only [List.map_cons, List.map_map]
  congr 1
  · simp
  · apply List.map_congr_left; intro a _; simp only [Function.comp]; omega

theorem cells_append {lo a b : Int} (ha : 0 ≤ a) (hb : 0 ≤ b) :
    cells lo a ++ cells (lo + a) b = cells lo (a + b) := by
  generalize hk : a.toNat = k
  induction k generalizing lo a with
  | zero =>
    have : a = 0 := by omega
    subst this; simp [cells_nonpos (Int.le_refl 0)]
  | succ k ih =>
    have ha' : 0 < a := by omega
    rw [cells_succ ha', cells_succ (by omega : 0 < a + b)]
    simp only [List.cons_append]
    congr 1
    have := @ih (lo + 1) (a - 1) (by omega) (by omega)
    rw [show lo + 1 + (a - 1) = lo + a by omega, show a - 1 + b = a + b - 1 by omega] at this
    exact this

theorem drop_cells {lo len n : Int} (hn : 0 ≤ n) (hl : n ≤ len) :
    (cells lo len).drop n.toNat = cells (lo + n) (len - n) := by
  have h := @cells_append lo n (len - n) hn (by omega)
  rw [show n + (len - n) = len by omega] at h
  rw [← h, List.drop_append_of_le_length (by simp)]
  simp

theorem runLen_le (l : List Int) : runLen l ≤ l.length := by
  induction l with
  | nil => simp [runLen]
  | cons x r ih =>
    cases r with
    | nil => simp [runLen]
    | cons y r' =>
      unfold runLen; split
      · simp only [List.length_cons] at ih ⊢; omega
      · simp

/-- The first contiguous run of `cells lo len ++ rest` is exactly `cells lo len` when `rest` does not
continue at `lo + len`. -/
theorem runLen_cells_append {lo len : Int} {rest : List Int} (hl : 0 < len)
    (hr : rest.head? ≠ some (lo + len)) : runLen (cells lo len ++ rest) = len.toNat := by
  generalize hk : len.toNat = k
  induction k generalizing lo len with
  | zero => omega
  | succ k ih =>
    rw [cells_succ hl]
    by_cases h1 : len = 1
    · subst h1
      simp only [Int.sub_self, cells_nonpos (Int.le_refl 0), List.cons_append, List.nil_append]
      cases rest with
      | nil => simp [runLen] at *; omega
      | cons y r =>
        unfold runLen
        simp only [List.head?_cons, ne_eq, Option.some.injEq] at hr
        rw [if_neg hr]; omega
    · have hl' : 0 < len - 1 := by omega
      have := @ih (lo + 1) (len - 1) hl' (by rw [show lo + 1 + (len - 1) = lo + len by omega]; exact hr) (by omega)
      rw [cells_succ hl'] at this ⊢
      simp only [List.cons_append] at this ⊢
      unfold runLen
      rw [if_pos rfl, this]; omega

theorem head?_cells {lo len : Int} (hl : 0 < len) (rest : List Int) :
    (cells lo len ++ rest).head? = some lo := by
  rw [cells_succ hl]; simp

end Sonic.Spec.Bip
