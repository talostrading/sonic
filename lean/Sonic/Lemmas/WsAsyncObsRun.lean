/-
The refinement over whole runs: every observed step of the asynchronous WebSocket model is accepted by the C17 monitor
and keeps the coupling (`step_sim`), hence every observed run is accepted (`run_sim`).  The two labels in which the read
path handles frames (`sim_tau`, `sim_rdGot`) are here, on top of `WsAsyncObsFrame`; `ostep_model`, `ostep_env`,
`ostep_total` say that the observed steps are the model's.
-/
import Sonic.Lemmas.WsAsyncObsSim
import Sonic.Lemmas.WsAsyncObsFrame

namespace Sonic.Model.WsAsyncObs
open Sonic.Model.WsAsync
open Sonic.Spec.WsStream (Bytes StreamState replyCode closeCodeOf u16 isViolation controlOp reservedOp)
open Sonic.Spec.WsAsync (Cb Ev Kind Want WireFrame findCb setCb enterPush failW addW entered deliver replyFor pattern)

variable {max : Nat} {prog : CbId → List Action}

section Steps
variable {s s' : St} {o o' : Ob} {m : MS} {evs : List Ev}

/-- The library runs its own continuation: the closure of `AsyncNextFrame` after the flush (which decodes a frame already
read, arms the read reactor, or gives up), or `asyncNextMessage` asking for the next frame. -/
theorem sim_tau (hI : Inv s) (h : Coup max s o m []) (hs : ostep max prog s o .tau = some (s', o', evs)) :
    ∃ m', mrun m evs = .ok m' ∧ Coup max s' o' m' [] := by
  simp only [ostep, Option.map_eq_some_iff] at hs
  obtain ⟨s1, hst, hs2⟩ := hs
  rcases of_step_tau hst with ⟨cb, rk, ok, rest, hstk, rfl⟩ | ⟨cb, rk, rest, hstk, rfl⟩
  · have hloc : (cb, rk.lk) ∈ locs s := (locs_cons hstk).2 (Or.inl (List.mem_singleton.2 rfl))
    have hl : m.last = stOf s.ws := h.last_eq (by rw [hstk]; rfl)
    have hrd : s.rd = none := rd_none_of_reader_on_stack (cb := cb) hI hstk rfl
    have hrdr := h.reader hloc
    simp only [hstk] at hs2
    by_cases hc : (ok && s.ws.canRead) = true
    · rw [if_pos hc] at hs2
      have hcan := (Bool.and_eq_true_iff.1 hc).2
      cases hic : o.inboxC with
      | nil =>
        -- nothing decoded is waiting: the read reactor is armed
        simp only [hic, Prod.mk.injEq] at hs2
        obtain ⟨rfl, rfl, rfl⟩ := hs2
        have hib : s.inbox = [] := (hic ▸ h.inb).symm
        have hres : resumeRead true { s with stack := rest } cb rk ok = { s with stack := rest, rd := some (cb, rk) } := by
          simp only [resumeRead, hc, readNext, hib, if_true]
        rw [hres]
        have h1 : Coup max { s with rd := some (cb, rk) } o m [] :=
          coup_same h rfl (fun p hp => ((locs_rd (s := { s with rd := some (cb, rk) }) rfl).1 hp).elim (fun e => e ▸ hloc)
            (locs_of_rd_none (s := s))) (fun _ => hcan) h.hl
        exact ⟨m, rfl, coup_pop (s := { s with rd := some (cb, rk) }) h1 hstk rfl rfl⟩
      | cons g restC =>
        simp only [hic, Prod.mk.injEq] at hs2
        obtain ⟨rfl, rfl, rfl⟩ := hs2
        have hib : s.inbox = absFrame g :: restC.map absFrame := (hic ▸ h.inb).symm
        have hres : resumeRead true { s with stack := rest } cb rk ok =
            onFrame true { s with stack := rest, rd := s.rd, inbox := restC.map absFrame } cb rk (absFrame g) := by
          simp only [resumeRead, hc, readNext, hib, if_true]
        rw [hres]
        have h1 := coup_take (g := g) (restC := restC) (net' := o.net) s.rd h (by rw [hic]) (Or.inr rfl)
        have h2 := coup_pop (s := { s with rd := s.rd, inbox := restC.map absFrame }) h1 hstk rfl rfl
        exact ⟨m, rfl, sim_onframe (s0 := { s with stack := rest, rd := s.rd, inbox := restC.map absFrame })
          (o0 := { o with inboxC := restC, net := o.net }) h2 (h.calm_rest hstk) hl hcan (h.chain _ hloc) hrdr hrd⟩
    · -- the flush failed or the stream is closed: the read gives up
      rw [if_neg hc] at hs2
      simp only [Prod.mk.injEq] at hs2
      obtain ⟨rfl, rfl, rfl⟩ := hs2
      have hres : resumeRead true { s with stack := rest } cb rk ok =
          push { s with stack := rest, ws := .terminated } [.invoke cb (if ok then .eof else .err) true] := by
        simp only [resumeRead, if_neg hc]
      rw [hres]
      obtain ⟨b, hb, _⟩ := hrdr
      have h0 := coup_pop h hstk rfl rfl
      exact ⟨m, rfl, coup_rinvoke s.rd .terminated s.healthy h0 (h.calm_rest hstk) hb (by cases ok <;> simp) hrd (Or.inl rfl) h0.hl⟩
  · simp only [hstk, Prod.mk.injEq] at hs2
    obtain ⟨rfl, rfl, rfl⟩ := hs2
    exact ⟨m, rfl, coup_fl (coup_pop h hstk rfl rfl) (asyncFlush_fl _ _) (h.calm_rest hstk)
      (Or.inl (h.last_eq (by rw [hstk]; rfl))) nofun (h.cont_cbs fun p hp => (locs_cons hstk).2 (Or.inl hp))⟩

theorem sim_rdGot {k : Nat} (h : Coup max s o m []) (hs : ostep max prog s o (.rdGot k) = some (s', o', evs)) :
    ∃ m', mrun m evs = .ok m' ∧ Coup max s' o' m' [] := by
  simp only [ostep, Option.map_eq_some_iff] at hs
  obtain ⟨s1, hst, hs2⟩ := hs
  obtain ⟨rest, cb, rk, hstk, hrd, hib, hfs⟩ := of_step_rdGot hst
  cases htk : o.net.take k with
  | nil =>
    rcases hfs with ⟨_, rfl⟩ | ⟨f, more, hcons, _⟩
    · simp only [htk, Prod.mk.injEq] at hs2
      obtain ⟨rfl, rfl, rfl⟩ := hs2
      exact ⟨m, rfl, h⟩
    · rw [htk] at hcons; cases hcons
  | cons g restC =>
    rcases hfs with ⟨hnil, _⟩ | ⟨f, more, hcons, rfl⟩
    · rw [htk] at hnil; cases hnil
    · rw [htk, List.map_cons, List.cons.injEq] at hcons
      obtain ⟨rfl, rfl⟩ := hcons
      simp only [htk, Prod.mk.injEq] at hs2
      obtain ⟨rfl, rfl, rfl⟩ := hs2
      have hic : o.inboxC = [] := List.map_eq_nil_iff.1 (h.inb.trans hib)
      have hq : o.inboxC ++ o.net = g :: restC ++ o.net.drop k := by
        rw [hic, List.nil_append, ← htk, List.take_append_drop]
      have h1 := coup_take (g := g) (restC := restC) (net' := o.net.drop k) none h hq (Or.inl rfl)
      have hloc : (cb, rk.lk) ∈ locs s := (locs_rd hrd).2 (Or.inl rfl)
      exact ⟨m, rfl, sim_onframe (s0 := { s with rd := none, inbox := restC.map absFrame })
        (o0 := { o with inboxC := restC, net := o.net.drop k }) h1 (h.calm hstk rfl) (h.last_eq (by rw [hstk]; rfl))
        (h.rdCan (by rw [hrd]; rfl)) (h.chain _ hloc) (h.reader hloc) rfl⟩

end Steps

theorem ostep_model {s s' : St} {o o' : Ob} {l : OLabel} {evs : List Ev} {lab : Label}
    (hs : ostep max prog s o l = some (s', o', evs)) (hl : l.label max o = some lab) : step true prog s lab = some s' := by
  cases l <;> simp only [OLabel.label, Option.some.injEq, reduceCtorEq] at hl <;> subst hl <;> simp only [ostep] at hs
  case call c =>
    split at hs
    · cases hs
    · rename_i s1 hst
      simp only [Option.some.injEq, Prod.mk.injEq] at hs
      rw [hst, hs.1]
  case tau =>
    simp only [Option.map_eq_some_iff] at hs
    obtain ⟨s1, hst, hs2⟩ := hs
    rw [hst]
    congr 1
    split at hs2
    · split at hs2
      · split at hs2 <;> (simp only [Prod.mk.injEq] at hs2; exact hs2.1)
      · simp only [Prod.mk.injEq] at hs2; exact hs2.1
    · simp only [Prod.mk.injEq] at hs2; exact hs2.1
  case rdGot k =>
    simp only [Option.map_eq_some_iff] at hs
    obtain ⟨s1, hst, hs2⟩ := hs
    rw [hst]
    congr 1
    split at hs2 <;> (simp only [Prod.mk.injEq] at hs2; exact hs2.1)
  all_goals
    simp only [Option.map_eq_some_iff, Prod.mk.injEq] at hs
    obtain ⟨s1, hst, rfl, _⟩ := hs
    exact hst

theorem ostep_env {s s' : St} {o o' : Ob} {l : OLabel} {evs : List Ev} (hs : ostep max prog s o l = some (s', o', evs)) (hl : l.label max o = none) : s' = s := by
  cases l <;> simp only [OLabel.label, reduceCtorEq] at hl <;> simp only [ostep] at hs
  case peer g => simp only [Option.some.injEq, Prod.mk.injEq] at hs; exact hs.1.symm
  case peerEof => simp only [Option.some.injEq, Prod.mk.injEq] at hs; exact hs.1.symm
  case drain k =>
    split at hs
    · simp only [Option.some.injEq, Prod.mk.injEq] at hs; exact hs.1.symm
    · cases hs
  case finish =>
    split at hs
    · simp only [Option.some.injEq, Prod.mk.injEq] at hs; exact hs.1.symm
    · cases hs

/-- **One observed step**: the monitor accepts the events of the step, and the coupling (and the model's invariant) is
kept. -/
theorem step_sim {s s' : St} {o o' : Ob} {m : MS} {l : OLabel} {evs : List Ev} (hI : Inv s) (h : Coup max s o m [])
    (hs : ostep max prog s o l = some (s', o', evs)) : ∃ m', mrun m evs = .ok m' ∧ Coup max s' o' m' [] ∧ Inv s' := by
  have hI' : Inv s' := by
    cases hl : l.label max o with
    | some lab => exact step_inv hI (ostep_model hs hl)
    | none => exact ostep_env hs hl ▸ hI
  have hC : ∃ m', mrun m evs = .ok m' ∧ Coup max s' o' m' [] := by
    cases l with
    | call c => exact sim_call hI h hs
    | skip a => exact sim_skip h hs
    | ret => exact sim_ret h hs
    | enter cb r => exact sim_enter hI h hs
    | exit cb => exact sim_exit h hs
    | ctl => exact sim_ctl h hs
    | tau => exact sim_tau hI h hs
    | wrote n => exact sim_wrote h hs
    | wrErr => exact sim_wrErr h hs
    | rdGot k => exact sim_rdGot h hs
    | rdEof => exact sim_rdEof h hs
    | rdErr => exact sim_rdErr h hs
    | peer g => exact sim_peer h hs
    | peerEof => exact sim_peerEof h hs
    | drain k => exact sim_drain hI h hs
    | finish => exact sim_finish hI h hs
  exact hC.imp fun _ h1 => ⟨h1.1, h1.2, hI'⟩

theorem mrun_append {m m1 m2 : MS} : ∀ {a b : List Ev}, mrun m a = .ok m1 → mrun m1 b = .ok m2 → mrun m (a ++ b) = .ok m2
  | [], b, h1, h2 => by
    simp only [mrun, Sonic.Spec.WsAsync.run, Except.ok.injEq] at h1
    subst h1
    exact h2
  | e :: a, b, h1, h2 => by
    simp only [mrun, Sonic.Spec.WsAsync.run, List.cons_append] at h1 ⊢
    cases hst : Sonic.Spec.WsAsync.step m e with
    | error k => rw [hst] at h1; cases h1
    | ok m' =>
      rw [hst] at h1
      simp only [] at h1 ⊢
      exact mrun_append (a := a) h1 h2

/-- **Refinement over whole runs**: from coupled states, the monitor accepts the events of every observed run. -/
theorem run_sim : ∀ (ls : List OLabel) (s : St) (o : Ob) (m : MS) (evs : List Ev), Inv s → Coup max s o m [] →
    otrace max prog s o ls = some evs → ∃ m', mrun m evs = .ok m'
  | [], s, o, m, evs, _, _, h => by
    simp only [otrace, Option.some.injEq] at h
    subst h
    exact ⟨m, rfl⟩
  | l :: r, s, o, m, evs, hI, hC, h => by
    simp only [otrace] at h
    split at h
    · cases h
    · rename_i s' o' ev1 hst
      simp only [Option.map_eq_some_iff] at h
      obtain ⟨ev2, hr, rfl⟩ := h
      obtain ⟨m1, h1, hC1, hI1⟩ := step_sim hI hC hst
      obtain ⟨m2, h2⟩ := run_sim r s' o' m1 ev2 hI1 hC1 hr
      exact ⟨m2, mrun_append h1 h2⟩

theorem ostep_total {s s' : St} {o : Ob} {l : OLabel} {lab : Label} (hl : l.label max o = some lab)
    (hs : step true prog s lab = some s') : ∃ o' evs, ostep max prog s o l = some (s', o', evs) := by
  cases l <;> simp only [OLabel.label, Option.some.injEq, reduceCtorEq] at hl <;> subst hl <;> simp only [ostep, hs, Option.map_some]
  case tau =>
    split
    · split
      · split <;> exact ⟨_, _, rfl⟩
      · exact ⟨_, _, rfl⟩
    · exact ⟨_, _, rfl⟩
  case rdGot k => split <;> exact ⟨_, _, rfl⟩
  all_goals exact ⟨_, _, rfl⟩

end Sonic.Model.WsAsyncObs
