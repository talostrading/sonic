/-
The invariant `Inv` of the asynchronous WebSocket model (serialised flushes): every label preserves it (`step_inv`), so it
holds in every reachable state (`reach_inv`); its consequences that C17 states (`log_count_le_one`, `enter_owed`, …).
-/
import Sonic.Lemmas.WsAsyncInv

namespace Sonic.Model.WsAsync

/-- The invariant of the model: serialisation (`Core`), wire order (`Wire`), and the callback ledger — every callback
handed to the API is either in the invocation log or owed exactly once; ids are not reused; at most one owed callback
is a reader, exactly when a read is outstanding. -/
structure Inv (s : St) : Prop where
  core : Core s
  wire : Wire s
  cbs : ∀ c, s.started.count c = s.log.count c + (owedList s).countP (·.1 == c)
  nodup : s.started.Nodup
  reads : (owedList s).countP (·.2) = if s.readBusy then 1 else 0

theorem init_inv : Inv {} :=
  ⟨⟨rfl, fun _ => rfl, rfl, fun _ h => by cases h⟩, ⟨fun _ => rfl, fun _ => rfl⟩, fun _ => rfl, List.nodup_nil, rfl⟩

theorem inv_of_eff {s0 s' : St} {add : List Ow} (e : Eff s0 s' add)
    (hcbs : ∀ c, s0.started.count c = s0.log.count c + ((owedList s0).countP (·.1 == c) + add.countP (·.1 == c)))
    (hnd : s0.started.Nodup)
    (hreads : (owedList s0).countP (·.2) + add.countP (·.2) = if s0.readBusy then 1 else 0) : Inv s' :=
  ⟨e.core, e.wire, fun c => by rw [e.started, e.log, e.owed]; exact hcbs c, e.started ▸ hnd,
   by rw [e.owed, e.readBusy]; exact hreads⟩

theorem owed_stack (s : St) (st : List Task) (P : Ow → Bool) :
    (owedList { s with stack := st }).countP P + (s.stack.flatMap taskCbs).countP P =
      (owedList s).countP P + (st.flatMap taskCbs).countP P := by
  simp only [owedList, wrCbs, rdCbs, List.countP_append]
  omega

theorem inv_stack {s : St} (h : Inv s) (st : List Task) (hst : st.flatMap taskCbs = s.stack.flatMap taskCbs) :
    Inv { s with stack := st } := by
  have ho : ∀ P, (owedList { s with stack := st }).countP P = (owedList s).countP P := fun P => by
    have := owed_stack s st P; rw [hst] at this; omega
  exact ⟨⟨h.core.flushWr, h.core.idle, h.core.notOver, h.core.one⟩, ⟨h.wire.frames, h.wire.bytes⟩,
    fun c => by rw [ho]; exact h.cbs c, h.nodup, by rw [ho]; exact h.reads⟩

theorem begin_inv {s s0 s' : St} (h : Inv s) (cb : CbId) (isRead : Bool) (hnew : cb ∉ s.started)
    (hrb : isRead = true → s.readBusy = false)
    (hs0 : s0 = { s with stack := .ret :: s.stack, started := s.started ++ [cb],
                         readBusy := if isRead then true else s.readBusy })
    (e : Core s0 → Wire s0 → Eff s0 s' [(cb, isRead)]) : Inv s' := by
  subst hs0
  have h1 := inv_stack h (.ret :: s.stack) rfl
  refine inv_of_eff (e { h.core with } { h.wire with }) (fun c => ?_) ?_ ?_
  · have := h1.cbs c
    simp only [List.count_append, List.count_singleton, List.countP_cons, List.countP_nil] at this ⊢
    show _ = _ + ((owedList { s with stack := Task.ret :: s.stack }).countP _ + _)
    omega
  · exact List.nodup_append.2 ⟨h.nodup, by simp, fun x hx y hy => by simp at hy; subst hy; exact fun e => hnew (e ▸ hx)⟩
  · have := h1.reads
    show (owedList { s with stack := Task.ret :: s.stack }).countP (·.2) + [((cb, isRead) : Ow)].countP (·.2) =
      if (if isRead then true else s.readBusy) then 1 else 0
    cases isRead with
    | false => simpa using this
    | true =>
      rw [show (if s.readBusy = true then 1 else 0) = 0 from by rw [hrb rfl]; rfl] at this
      simpa using this

theorem write_eff {s : St} (hc : Core s) (hw : Wire s) (f : OutFrame) (cb : CbId) :
    Eff s (if s.ws = .active then asyncFlush true (prepare s f) (.user cb) else push s [.invoke cb .cancelled false]) [(cb, false)] := by
  split
  · have h1 := prepare_eff hc hw f
    exact (h1.trans (asyncFlush_eff h1.core h1.wire (.user cb))).of_eq rfl
  · exact push_eff hc hw _

theorem callOk_cb {s : St} {a : Action} {cb : CbId} (ha : a.cb? = some cb) (hok : callOk s a = true) :
    cb ∉ s.started ∧ (a.isRead = true → s.readBusy = false) := by
  cases a <;> cases ha <;> simpa [callOk, Action.cb?, Action.isRead] using hok

theorem beginCall_inv {s : St} (h : Inv s) (a : Action) (hok : callOk s a = true) : Inv (beginCall true s a) := by
  cases a with
  | poll => exact inv_stack h _ rfl
  | read cb =>
    obtain ⟨hnew, hrb⟩ := callOk_cb rfl hok
    exact begin_inv h cb true hnew hrb rfl fun hc hw => asyncFlush_eff hc hw (.readStart cb .frame)
  | readMsg cb room =>
    obtain ⟨hnew, hrb⟩ := callOk_cb rfl hok
    exact begin_inv h cb true hnew hrb rfl fun hc hw => asyncFlush_eff hc hw (.readStart cb (.message room false))
  | write cb size => exact begin_inv h cb false (callOk_cb rfl hok).1 nofun rfl fun hc hw => write_eff hc hw _ cb
  | writeTooBig cb => exact begin_inv h cb false (callOk_cb rfl hok).1 nofun rfl fun hc hw => push_eff hc hw _
  | writeFrame cb size => exact begin_inv h cb false (callOk_cb rfl hok).1 nofun rfl fun hc hw => write_eff hc hw _ cb
  | flush cb => exact begin_inv h cb false (callOk_cb rfl hok).1 nofun rfl fun hc hw => asyncFlush_eff hc hw (.user cb)
  | close cb size =>
    exact begin_inv h cb false (callOk_cb rfl hok).1 nofun rfl fun hc hw => asyncClose_eff hc hw _ (.user cb) (Or.inl ⟨cb, rfl⟩)

theorem inv_replace {s s' : St} (h : Inv s) {t : Task} {rest : List Task} (hst : s.stack = t :: rest) {add : List Ow}
    (e : Eff { s with stack := rest } s' add) (hadd : ∀ P : Ow → Bool, add.countP P = (taskCbs t).countP P) : Inv s' := by
  have ho : ∀ P, (owedList { s with stack := rest }).countP P + (taskCbs t).countP P = (owedList s).countP P := fun P => by
    have := owed_stack s rest P
    rw [hst] at this
    simp only [List.flatMap_cons, List.countP_append] at this
    omega
  refine inv_of_eff e (fun c => ?_) h.nodup ?_
  · rw [hadd, ho]; exact h.cbs c
  · rw [hadd, ho]; exact h.reads

theorem rd_none_of_reader_on_stack {s : St} (h : Inv s) {cb : CbId} {t : Task} {rest : List Task} (hst : s.stack = t :: rest)
    (ht : taskCbs t = [(cb, true)]) : s.rd = none := by
  have := h.reads
  cases hrd : s.rd with
  | none => rfl
  | some p =>
    exfalso
    obtain ⟨c', k'⟩ := p
    simp [owedList, rdCbs, hrd, hst, List.flatMap_cons, ht, List.countP_append] at this
    split at this <;> omega

theorem owed_clear_wr {s s1 : St} {w : WSlot} (hwr : s.wr = some w)
    (e : (s1.waiters, s1.wr, s1.rd, s1.stack) = (s.waiters, none, s.rd, s.stack)) (P : Ow → Bool) :
    (owedList s1).countP P + (contCbs w.k).countP P = (owedList s).countP P := by
  simp only [Prod.mk.injEq] at e
  obtain ⟨h1, h2, h3, h4⟩ := e
  simp only [owedList, wrCbs, rdCbs, h1, h2, h3, h4, hwr, List.countP_append, List.countP_nil]
  omega

theorem owed_clear_rd {s s1 : St} {cb : CbId} {rk : RKind} (hrd : s.rd = some (cb, rk))
    (e : (s1.waiters, s1.wr, s1.rd, s1.stack) = (s.waiters, s.wr, none, s.stack)) (P : Ow → Bool) :
    (owedList s1).countP P + [((cb, true) : Ow)].countP P = (owedList s).countP P := by
  simp only [Prod.mk.injEq] at e
  obtain ⟨h1, h2, h3, h4⟩ := e
  simp only [owedList, wrCbs, rdCbs, h1, h2, h3, h4, hrd, List.countP_append, List.countP_nil]
  omega

theorem inv_handover {s s1 s' : St} (h : Inv s) {add : List Ow} (e : Eff s1 s' add)
    (hsame : (s1.started, s1.log, s1.readBusy) = (s.started, s.log, s.readBusy))
    (ho : ∀ P : Ow → Bool, (owedList s1).countP P + add.countP P = (owedList s).countP P) : Inv s' := by
  simp only [Prod.mk.injEq] at hsame
  obtain ⟨hs, hl, hr⟩ := hsame
  refine inv_of_eff e (fun c => ?_) (hs ▸ h.nodup) ?_
  · rw [ho, hs, hl]; exact h.cbs c
  · rw [ho, hr]; exact h.reads

theorem inv_pop {s : St} (h : Inv s) {t : Task} {rest : List Task} (hst : s.stack = t :: rest) (ht : taskCbs t = []) :
    Inv { s with stack := rest } :=
  inv_stack h rest (by rw [hst, List.flatMap_cons, ht, List.nil_append])

theorem step_inv {prog : CbId → List Action} {s s' : St} {l : Label} (h : Inv s) (hs : step true prog s l = some s') : Inv s' := by
  cases l with
  | call a =>
    obtain ⟨s0, hs0, hok, rfl⟩ := of_step_call hs
    rcases hs0 with ⟨_, rfl⟩ | ⟨rest, hst, rfl⟩
    · exact beginCall_inv h a hok
    · exact beginCall_inv (inv_pop h hst rfl) a hok
  | skip a => obtain ⟨rest, hst, rfl⟩ := of_step_skip hs; exact inv_pop h hst rfl
  | ret =>
    obtain ⟨t, rest, ht, hst, rfl⟩ := of_step_ret hs
    exact inv_pop h hst (by rcases ht with rfl | rfl <;> rfl)
  | exit cb => obtain ⟨rest, hst, rfl⟩ := of_step_exit hs; exact inv_pop h hst rfl
  | ctl => obtain ⟨rest, hst, rfl⟩ := of_step_ctl hs; exact inv_pop h hst rfl
  | enter cb r =>
    obtain ⟨isRead, rest, hst, rfl⟩ := of_step_enter hs
    -- the entry that was owed is replaced by the invocation in the log
    have hpop : ∀ P : Ow → Bool, (owedList { s with stack := (prog cb).map Task.call ++ Task.exit cb :: rest }).countP P
        + (if P (cb, isRead) then 1 else 0) = (owedList s).countP P := fun P => by
      have := owed_stack s ((prog cb).map Task.call ++ Task.exit cb :: rest) P
      rw [hst] at this
      simp only [List.flatMap_cons, List.flatMap_append, calls_cbs, taskCbs, List.countP_append, List.countP_cons,
        List.countP_nil, List.nil_append] at this
      omega
    refine ⟨{ h.core with }, { h.wire with }, fun c => ?_, h.nodup, ?_⟩
    · have h1 := h.cbs c
      have h2 := hpop (·.1 == c)
      show s.started.count c = (s.log ++ [cb]).count c + (owedList { s with stack := _ }).countP _
      simp only [List.count_append, List.count_singleton] at *
      omega
    · have h1 := h.reads
      have h2 := hpop (·.2)
      show (owedList { s with stack := _ }).countP (·.2) = if (if isRead then false else s.readBusy) then 1 else 0
      cases isRead with
      | false =>
        simp only [Bool.false_eq_true, if_false, Nat.add_zero] at h2 ⊢
        rw [h2]; exact h1
      | true =>
        simp only [if_true, Bool.false_eq_true, if_false] at h2 ⊢
        split at h1 <;> omega
  | tau =>
    rcases of_step_tau hs with ⟨cb, rk, ok, rest, hst, rfl⟩ | ⟨cb, rk, rest, hst, rfl⟩
    · have hrd := rd_none_of_reader_on_stack (cb := cb) h hst rfl
      exact inv_replace h hst (resumeRead_eff (s := { s with stack := rest }) { h.core with } { h.wire with } hrd cb rk ok)
        (fun P => rfl)
    · exact inv_replace h hst (asyncFlush_eff (s := { s with stack := rest }) { h.core with } { h.wire with } (.readStart cb rk))
        (fun P => rfl)
  | wrote n =>
    obtain ⟨rest, w, hst, hwr, hle, rfl⟩ := of_step_wrote hs
    have hfl : s.flushing = true := by rw [h.core.flushWr, hwr]; rfl
    have hfr : s.healthy = true → s.wire ++ w.buf ++ s.pending = s.submitted := fun hh => by
      have := h.wire.frames hh
      simpa only [wrBuf, hwr] using this
    have hby : s.healthy = true → s.bytes ++ ((bufBytes w.buf).drop w.sofar).take n =
        bufBytes s.wire ++ (bufBytes w.buf).take (w.sofar + n) := fun hh => by
      have := h.wire.bytes hh
      simp only [wrDone, hwr] at this
      rw [this, List.append_assoc, ← List.take_add]
    unfold afterWrote
    split
    · rename_i heq
      -- the buffer is complete: the frame is on the wire, asyncFlush goes on
      have hwire : Wire { s with bytes := s.bytes ++ ((bufBytes w.buf).drop w.sofar).take n, wr := none, wire := s.wire ++ w.buf } := by
        refine ⟨fun hh => by simpa [wrBuf] using hfr hh, fun hh => ?_⟩
        show s.bytes ++ _ = bufBytes (s.wire ++ w.buf) ++ wrDone _
        rw [hby hh, heq, List.take_of_length_le (by rw [bufBytes_length]; exact Nat.le_refl _), bufBytes_append]
        simp [wrDone]
      exact inv_handover h (asyncFlushGo_eff (s := { s with bytes := _, wr := none, wire := _ }) rfl hfl h.core.notOver hwire w.k)
        rfl (owed_clear_wr hwr rfl)
    · have ho : owedList { s with bytes := s.bytes ++ ((bufBytes w.buf).drop w.sofar).take n, wr := some { w with sofar := w.sofar + n } } = owedList s := by
        simp [owedList, wrCbs, rdCbs, hwr]
      refine ⟨⟨by rw [hfl]; rfl, h.core.idle, h.core.notOver, ?_⟩, ⟨hfr, hby⟩, fun c => by rw [ho]; exact h.cbs c, h.nodup, by rw [ho]; exact h.reads⟩
      intro w' hw'
      simp only [Option.some.injEq] at hw'
      subst hw'
      exact h.core.one w hwr
  | wrErr =>
    obtain ⟨rest, w, hst, hwr, rfl⟩ := of_step_wrErr hs
    exact inv_handover h (flushDone_eff (s := { s with wr := none, healthy := false }) rfl h.core.notOver ⟨nofun, nofun⟩ w.k false)
      rfl (owed_clear_wr hwr rfl)
  | rdGot fs =>
    obtain ⟨rest, cb, rk, hst, hrd, _, hfs⟩ := of_step_rdGot hs
    rcases hfs with ⟨_, rfl⟩ | ⟨f, more, _, rfl⟩
    · exact h
    · exact inv_handover h (onFrame_eff (s := { s with rd := none, inbox := more }) { h.core with } { h.wire with } cb rk f)
        rfl (owed_clear_rd hrd rfl)
  | rdEof =>
    obtain ⟨rest, cb, rk, hst, hrd, rfl⟩ := of_step_rdEof hs
    exact inv_handover h (push_eff (s := { s with rd := none, ws := .terminated }) { h.core with } { h.wire with } _)
      rfl (owed_clear_rd hrd rfl)
  | rdErr =>
    obtain ⟨rest, cb, rk, hst, hrd, rfl⟩ := of_step_rdErr hs
    exact inv_handover h (push_eff (s := { s with rd := none, healthy := false }) { h.core with } ⟨nofun, nofun⟩ _)
      rfl (owed_clear_rd hrd rfl)

theorem Core.waiters_nil {s : St} (h : Core s) (hwr : s.wr = none) : s.waiters = [] :=
  h.idle (by rw [h.flushWr, hwr]; rfl)

theorem log_count_le_one {s : St} (hI : Inv s) (c : CbId) : s.log.count c ≤ 1 := by
  have h1 := hI.cbs c
  have h2 := hI.nodup.count (a := c)
  split at h2 <;> omega

theorem log_started {s : St} (hI : Inv s) : ∀ c ∈ s.log, c ∈ s.started := by
  intro c hc
  have h1 := hI.cbs c
  have : 0 < s.log.count c := List.count_pos_iff.2 hc
  exact List.count_pos_iff.1 (by omega)

theorem enter_owed {s : St} (hI : Inv s) {cb : CbId} {r : Res} {isRead : Bool} {rest : List Task}
    (hst : s.stack = .invoke cb r isRead :: rest) : cb ∈ s.started ∧ cb ∉ s.log := by
  have h1 := hI.cbs cb
  have h2 := hI.nodup.count (a := cb)
  have h3 : 1 ≤ (owedList s).countP (·.1 == cb) := by
    simp [owedList, hst, List.flatMap_cons, taskCbs, List.countP_append]
    omega
  constructor
  · exact List.count_pos_iff.1 (by omega)
  · intro hl
    have : 0 < s.log.count cb := List.count_pos_iff.2 hl
    split at h2 <;> omega

theorem owed_nil_of_quiescent {s : St} (hI : Inv s) (hq : quiescent s) : owedList s = [] := by
  obtain ⟨hst, hwr, hrd⟩ := hq
  simp [owedList, wrCbs, rdCbs, hst, hwr, hrd, hI.core.waiters_nil hwr]

theorem log_of_quiescent {s : St} (hI : Inv s) (hq : quiescent s) : ∀ c ∈ s.started, c ∈ s.log := by
  intro c hc
  have h1 := hI.cbs c
  have h3 : 0 < s.started.count c := List.count_pos_iff.2 hc
  rw [owed_nil_of_quiescent hI hq, List.countP_nil] at h1
  exact List.count_pos_iff.1 (by omega)

theorem log_count_of_quiescent {s : St} (hI : Inv s) (hq : quiescent s) : ∀ c ∈ s.started, s.log.count c = 1 := by
  intro c hc
  have h1 := List.count_pos_iff.2 (log_of_quiescent hI hq c hc)
  have h2 := log_count_le_one hI c
  omega

theorem pending_has_reactor {s : St} (hI : Inv s) (hst : s.stack = []) {c : CbId} (hc : c ∈ s.started) (hn : c ∉ s.log) :
    s.wr.isSome = true ∨ ∃ rk, s.rd = some (c, rk) := by
  cases hwr : s.wr with
  | some w => exact Or.inl rfl
  | none =>
    right
    have hw := hI.core.waiters_nil hwr
    have h1 := hI.cbs c
    have h2 : s.log.count c = 0 := List.count_eq_zero.2 hn
    have h3 : 0 < s.started.count c := List.count_pos_iff.2 hc
    cases hrd : s.rd with
    | none => simp [owedList, wrCbs, rdCbs, hst, hwr, hrd, hw] at h1; omega
    | some p =>
      obtain ⟨cb, rk⟩ := p
      simp only [owedList, wrCbs, rdCbs, hst, hwr, hrd, hw, List.flatMap_nil, List.append_nil, List.nil_append,
        List.countP_cons, List.countP_nil] at h1
      have : cb = c := by
        by_cases hcc : cb = c
        · exact hcc
        · simp [hcc] at h1; omega
      exact ⟨rk, by rw [this]⟩

theorem reach_inv {prog : CbId → List Action} {s : St} (h : Reach prog s) : Inv s := by
  induction h with
  | init => exact init_inv
  | step l _ hs ih => exact step_inv ih hs

end Sonic.Model.WsAsync
