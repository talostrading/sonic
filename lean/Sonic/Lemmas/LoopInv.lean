/-
What the invariants of the loop model `Sonic.Model.Loop` share: the pending accounting `AcctInv` with its balance
relation `Bal`, what `setObj` and the poller's helpers do to the objects, to `pending` and to the other fields, the lookup
`opIn` of the operation table, the case lemmas of `OpKind` / `ObjKind`, and `run_invariant`, which carries a property kept
by every step along a run.
-/
import Sonic.Model.Loop

namespace Sonic.Model.Loop
open Sonic.Spec.Loop

theorem ind_nonneg (p : Prop) [Decidable p] : (0 : Int) ≤ if p then 1 else 0 := by split <;> omega

theorem ind_mono {p q : Prop} [Decidable p] [Decidable q] (h : p → q) :
    (if p then (1 : Int) else 0) ≤ if q then 1 else 0 := by
  split
  · rw [if_pos (h ‹p›)]; omega
  · exact ind_nonneg q

def bitsOf (o : Obj) : Int := (if o.evR then 1 else 0) + (if o.evW then 1 else 0)

def bits : List Obj → Int
  | [] => 0
  | o :: r => bitsOf o + bits r

def postFrames : List K → Int
  | [] => 0
  | .user _ .postDone :: r => 1 + postFrames r
  | _ :: r => postFrames r

theorem bits_nonneg : ∀ l : List Obj, 0 ≤ bits l
  | [] => Int.le_refl 0
  | _ :: r => Int.add_nonneg (Int.add_nonneg (ind_nonneg _) (ind_nonneg _)) (bits_nonneg r)

def ids (l : List Obj) : List Nat := l.map (·.id)

/-- Pending accounting: `poller.pending` = registered interests + queued posts + posted handlers that are running. -/
def AcctInv (w : World) : Prop :=
  (ids w.objs).Nodup ∧ w.pending - bits w.objs = w.posts.length + postFrames w.stack

theorem find_mem {l : List Obj} {k : Nat} {o : Obj} (h : l.find? (·.id == k) = some o) : o ∈ l ∧ o.id = k := by
  have h1 := List.find?_some h
  exact ⟨List.mem_of_find?_eq_some h, by simpa using h1⟩

theorem getObj_id {w : World} {k : Nat} {o : Obj} (h : getObj w k = some o) : o.id = k := (find_mem h).2

theorem getObj_mem {w : World} {k : Nat} {o : Obj} (h : getObj w k = some o) : o ∈ w.objs := (find_mem h).1

def opIn (ops : List OpInfo) (x : Nat) : Option OpInfo := ops.find? (·.id == x)

theorem getOp_eq (w : World) (x : Nat) : getOp w x = opIn w.ops x := rfl

theorem opIn_cons_fresh {ops : List OpInfo} {i0 : OpInfo} {x : Nat} {info : OpInfo}
    (hf : opIn ops i0.id = none) (h : opIn ops x = some info) : opIn (i0 :: ops) x = some info := by
  have hne : (i0.id == x) = false := beq_false_of_ne fun e => by rw [e, h] at hf; cases hf
  unfold opIn at *
  rw [List.find?_cons, hne]; exact h

theorem opIn_cons_self {ops : List OpInfo} {i0 : OpInfo} : opIn (i0 :: ops) i0.id = some i0 := by
  simp [opIn]

theorem opIn_id {ops : List OpInfo} {x : Nat} {info : OpInfo} (h : opIn ops x = some info) : info.id = x := by
  have := List.find?_some h
  simpa using this

theorem not_timer_of_hasCancel {k : ObjKind} (h : hasCancel k = true) : k ≠ .timer := by
  intro hk; rw [hk] at h; cases h

theorem isIO_not_post {k : OpKind} (h : k.isIO = true) : k ≠ .post := by
  intro hk; rw [hk] at h; cases h

theorem isWrite_of_isIO {k : OpKind} (h : k.isIO = true) (hr : k.isRead = false) : k.isWrite = true := by
  simpa [OpKind.isIO, hr] using h

theorem isWrite_not_isRead {k : OpKind} (h : k.isWrite = true) : k.isRead = false := by
  cases k <;> simp [OpKind.isWrite, OpKind.isRead] at h ⊢

theorem isRead_ne_timerRep {k : OpKind} (h : k.isRead = true) : k ≠ .timerRep := by
  intro e; rw [e] at h; simp [OpKind.isRead] at h

theorem isWrite_ne_timerRep {k : OpKind} (h : k.isWrite = true) : k ≠ .timerRep := by
  intro e; rw [e] at h; simp [OpKind.isWrite] at h

theorem map_set_of_not_mem {r : List Obj} {o' : Obj} (h : o'.id ∉ ids r) :
    (r.map fun y => if y.id == o'.id then o' else y) = r := by
  induction r with
  | nil => rfl
  | cons y r ih =>
    simp only [ids, List.map_cons, List.mem_cons, not_or] at h
    rw [List.map_cons, ih h.2, if_neg (by simpa using fun e => h.1 e.symm)]

/-- With unique identifiers the map replaces `o` alone, so a sum `F` over the objects (with summand `f`) moves by
`o`'s own share.  Used for `bits` and for the reference count `objRefs`. -/
theorem sum_map_set {F : List Obj → Int} {f : Obj → Int} (hF : ∀ x r, F (x :: r) = f x + F r) (l : List Obj) (o o' : Obj)
    (hn : (ids l).Nodup) (hm : o ∈ l) (hid : o'.id = o.id) :
    F (l.map fun x => if x.id == o'.id then o' else x) = F l - f o + f o' := by
  induction l with
  | nil => cases hm
  | cons x r ih =>
    simp only [ids, List.map_cons, List.nodup_cons] at hn
    rw [List.map_cons, hF, hF]
    by_cases hx : x.id = o.id
    · have hxo : x = o := by
        rcases List.mem_cons.1 hm with h | h
        · exact h.symm
        · exact absurd (List.mem_map.2 ⟨o, h, hx.symm⟩) hn.1
      subst hxo
      rw [if_pos (by simp [hid]), map_set_of_not_mem (by rw [hid]; exact hn.1)]
      omega
    · have hmr : o ∈ r := (List.mem_cons.1 hm).resolve_left fun h => hx (h ▸ rfl)
      rw [if_neg (by simpa [hid] using hx), ih hn.2 hmr]
      omega

theorem forall_setObj {P : Obj → Prop} {w : World} {o' : Obj} (hI : ∀ o ∈ w.objs, P o) (ho : P o') :
    ∀ o ∈ (setObj w o').objs, P o := by
  intro o hm
  obtain ⟨y, hy, rfl⟩ := List.mem_map.1 hm
  split
  · exact ho
  · exact hI y hy

theorem ids_setObj (w : World) (o' : Obj) : ids (setObj w o').objs = ids w.objs := by
  show ids (w.objs.map _) = _
  induction w.objs with
  | nil => rfl
  | cons x r ih =>
    simp only [ids, List.map_cons] at *
    rw [ih]
    congr 1
    by_cases h : x.id == o'.id
    · simp only [h, if_true]; exact (by simpa using h : x.id = o'.id).symm
    · simp only [h]; rfl

def slack (w : World) : Int := w.pending - bits w.objs

def Bal (w w' : World) : Prop :=
  (ids w'.objs).Nodup ∧ slack w' = slack w ∧ w'.posts = w.posts ∧ w'.stack = w.stack ∧ w'.dispatched = w.dispatched ∧
  ids w'.objs = ids w.objs

theorem Bal.refl {w : World} (hn : (ids w.objs).Nodup) : Bal w w := ⟨hn, rfl, rfl, rfl, rfl, rfl⟩

theorem Bal.trans {a b c : World} (h1 : Bal a b) (h2 : Bal b c) : Bal a c :=
  ⟨h2.1, h2.2.1.trans h1.2.1, h2.2.2.1.trans h1.2.2.1, h2.2.2.2.1.trans h1.2.2.2.1,
   h2.2.2.2.2.1.trans h1.2.2.2.2.1, h2.2.2.2.2.2.trans h1.2.2.2.2.2⟩

theorem setObj_bal {w : World} {k : Nat} {o : Obj} (o' : Obj) (p : Int) (hn : (ids w.objs).Nodup)
    (hg : getObj w k = some o) (hid : o'.id = o.id) (hb : p - bitsOf o' = w.pending - bitsOf o) :
    Bal w (setObj { w with pending := p } o') := by
  have h : bits (setObj { w with pending := p } o').objs = bits w.objs - bitsOf o + bitsOf o' :=
    sum_map_set (fun _ _ => rfl) _ o o' hn (getObj_mem hg) hid
  refine ⟨by rw [ids_setObj]; exact hn, ?_, rfl, rfl, rfl, ids_setObj _ _⟩
  unfold slack; rw [h]; simp only [setObj]; omega

theorem setRead_bal {w : World} {k : Nat} {o : Obj} {op : Nat} (hn : (ids w.objs).Nodup) (hg : getObj w k = some o) :
    Bal w (setRead w o op) := by
  unfold setRead
  split
  · exact setObj_bal { o with hR := op, registered := true } w.pending hn hg rfl rfl
  · rename_i h
    exact setObj_bal { o with hR := op, evR := true, registered := true } (w.pending + 1) hn hg rfl
      (by simp only [bitsOf, h, Bool.false_eq_true, if_true, if_false]; omega)

theorem setWrite_bal {w : World} {k : Nat} {o : Obj} {op : Nat} (hn : (ids w.objs).Nodup) (hg : getObj w k = some o) :
    Bal w (setWrite w o op) := by
  unfold setWrite
  split
  · exact setObj_bal { o with hW := op, registered := true } w.pending hn hg rfl rfl
  · rename_i h
    exact setObj_bal { o with hW := op, evW := true, registered := true } (w.pending + 1) hn hg rfl
      (by simp only [bitsOf, h, Bool.false_eq_true, if_true, if_false]; omega)

theorem delRead_bal {w : World} {k : Nat} {o : Obj} (hn : (ids w.objs).Nodup) (hg : getObj w k = some o) :
    Bal w (delRead w o) := by
  unfold delRead
  split
  · rename_i h
    exact setObj_bal { o with evR := false, registered := o.evW } (w.pending - 1) hn hg rfl
      (by simp only [bitsOf, h, Bool.false_eq_true, if_true, if_false]; omega)
  · exact Bal.refl hn

theorem delWrite_bal {w : World} {k : Nat} {o : Obj} (hn : (ids w.objs).Nodup) (hg : getObj w k = some o) :
    Bal w (delWrite w o) := by
  unfold delWrite
  split
  · rename_i h
    exact setObj_bal { o with evW := false, registered := o.evR } (w.pending - 1) hn hg rfl
      (by simp only [bitsOf, h, Bool.false_eq_true, if_true, if_false]; omega)
  · exact Bal.refl hn

theorem armTimer_bal {w : World} {k : Nat} {o : Obj} {op : Nat} {rep : Bool} (hn : (ids w.objs).Nodup)
    (hg : getObj w k = some o) : Bal w (armTimer w o op rep) := by
  unfold armTimer
  split
  · rename_i h
    exact setObj_bal _ w.pending hn hg rfl (by simp only [bitsOf, h, if_true])
  · rename_i h
    exact setObj_bal _ (w.pending + 1) hn hg rfl (by simp only [bitsOf, h, Bool.false_eq_true, if_true, if_false]; omega)

theorem getObj_self {w : World} {k : Nat} {o : Obj} (h : getObj w k = some o) : getObj w o.id = some o := by
  rw [getObj_id h]; exact h

theorem getObj_setObj {w : World} {k : Nat} {o : Obj} (o' : Obj) (hg : getObj w k = some o) (hid : o'.id = o.id) :
    getObj (setObj w o') k = some o' := by
  obtain rfl := getObj_id hg
  unfold getObj setObj at *
  simp only
  generalize w.objs = l at hg ⊢
  induction l with
  | nil => simp at hg
  | cons x r ih =>
    simp only [List.map_cons, List.find?_cons] at hg ⊢
    by_cases hx : (x.id == o'.id) = true
    · rw [if_pos hx]
      have : (o'.id == o.id) = true := by simp [hid]
      rw [this]
    · rw [if_neg hx]
      have hx2 : (x.id == o.id) = false := by
        rw [← hid]; exact Bool.eq_false_iff.2 hx
      rw [hx2] at hg ⊢
      exact ih hg

theorem getObj_setObj_ne (w : World) (o' : Obj) (k : Nat) (hne : k ≠ o'.id) : getObj (setObj w o') k = getObj w k := by
  unfold getObj setObj
  simp only
  generalize w.objs = l
  induction l with
  | nil => rfl
  | cons x r ih =>
    simp only [List.map_cons, List.find?_cons]
    by_cases hx : (x.id == o'.id) = true
    · rw [if_pos hx]
      have h1 : (o'.id == k) = false := by
        cases h : (o'.id == k) with
        | false => rfl
        | true => exact absurd (by simpa using h : o'.id = k).symm hne
      have h2 : (x.id == k) = false := by
        have : x.id = o'.id := by simpa using hx
        rw [this]; exact h1
      rw [h1, h2]; exact ih
    · rw [if_neg hx]
      cases hk : (x.id == k) with
      | true => rfl
      | false => exact ih

theorem getObj_pending (w : World) (p : Int) (k : Nat) : getObj { w with pending := p } k = getObj w k := rfl

theorem closeObj_bal {w : World} {k : Nat} {o : Obj} (hn : (ids w.objs).Nodup) (hg : getObj w k = some o) :
    Bal w (closeObj w o) := by
  unfold closeObj
  split
  · exact setObj_bal { o with evR := false, tstate := .closed } _ hn hg rfl
      (by simp only [bitsOf, Bool.false_eq_true, if_false]; omega)
  · exact setObj_bal { o with evR := false, evW := false, closed := true, registered := false } _ hn hg rfl
      (by simp only [bitsOf, Bool.false_eq_true, if_false]; omega)

theorem postFrames_cons_other {k : K} {r : List K} (h : ∀ op, k ≠ .user op .postDone) : postFrames (k :: r) = postFrames r := by
  cases k with
  | user op a => cases a <;> first | rfl | exact absurd rfl (h op)
  | _ => rfl

@[simp] theorem setObj_posts (w : World) (o : Obj) : (setObj w o).posts = w.posts := rfl
@[simp] theorem setObj_stack (w : World) (o : Obj) : (setObj w o).stack = w.stack := rfl
@[simp] theorem setObj_disp (w : World) (o : Obj) : (setObj w o).dispatched = w.dispatched := rfl
@[simp] theorem setObj_ops (w : World) (o : Obj) : (setObj w o).ops = w.ops := rfl
@[simp] theorem setObj_pending (w : World) (o : Obj) : (setObj w o).pending = w.pending := rfl
@[simp] theorem setRead_posts (w : World) (o : Obj) (op : Nat) : (setRead w o op).posts = w.posts := by unfold setRead; split <;> rfl
@[simp] theorem setRead_stack (w : World) (o : Obj) (op : Nat) : (setRead w o op).stack = w.stack := by unfold setRead; split <;> rfl
@[simp] theorem setRead_disp (w : World) (o : Obj) (op : Nat) : (setRead w o op).dispatched = w.dispatched := by unfold setRead; split <;> rfl
@[simp] theorem setRead_ops (w : World) (o : Obj) (op : Nat) : (setRead w o op).ops = w.ops := by unfold setRead; split <;> rfl
@[simp] theorem setWrite_posts (w : World) (o : Obj) (op : Nat) : (setWrite w o op).posts = w.posts := by unfold setWrite; split <;> rfl
@[simp] theorem setWrite_stack (w : World) (o : Obj) (op : Nat) : (setWrite w o op).stack = w.stack := by unfold setWrite; split <;> rfl
@[simp] theorem setWrite_disp (w : World) (o : Obj) (op : Nat) : (setWrite w o op).dispatched = w.dispatched := by unfold setWrite; split <;> rfl
@[simp] theorem setWrite_ops (w : World) (o : Obj) (op : Nat) : (setWrite w o op).ops = w.ops := by unfold setWrite; split <;> rfl
@[simp] theorem delRead_posts (w : World) (o : Obj) : (delRead w o).posts = w.posts := by unfold delRead; split <;> rfl
@[simp] theorem delRead_stack (w : World) (o : Obj) : (delRead w o).stack = w.stack := by unfold delRead; split <;> rfl
@[simp] theorem delRead_disp (w : World) (o : Obj) : (delRead w o).dispatched = w.dispatched := by unfold delRead; split <;> rfl
@[simp] theorem delRead_ops (w : World) (o : Obj) : (delRead w o).ops = w.ops := by unfold delRead; split <;> rfl
@[simp] theorem delWrite_posts (w : World) (o : Obj) : (delWrite w o).posts = w.posts := by unfold delWrite; split <;> rfl
@[simp] theorem delWrite_stack (w : World) (o : Obj) : (delWrite w o).stack = w.stack := by unfold delWrite; split <;> rfl
@[simp] theorem delWrite_disp (w : World) (o : Obj) : (delWrite w o).dispatched = w.dispatched := by unfold delWrite; split <;> rfl
@[simp] theorem delWrite_ops (w : World) (o : Obj) : (delWrite w o).ops = w.ops := by unfold delWrite; split <;> rfl
@[simp] theorem armTimer_posts (w : World) (o : Obj) (op : Nat) (r : Bool) : (armTimer w o op r).posts = w.posts := by
  unfold armTimer; split <;> rfl
@[simp] theorem armTimer_stack (w : World) (o : Obj) (op : Nat) (r : Bool) : (armTimer w o op r).stack = w.stack := by
  unfold armTimer; split <;> rfl
@[simp] theorem armTimer_disp (w : World) (o : Obj) (op : Nat) (r : Bool) : (armTimer w o op r).dispatched = w.dispatched := by
  unfold armTimer; split <;> rfl
@[simp] theorem armTimer_ops (w : World) (o : Obj) (op : Nat) (r : Bool) : (armTimer w o op r).ops = w.ops := by
  unfold armTimer; split <;> rfl

theorem armTimer_objs (w : World) (o : Obj) (op : Nat) (rep : Bool) :
    (armTimer w o op rep).objs = (setObj w { o with evR := true, hR := op, tstate := .scheduled, cancelled := false, rep := rep }).objs := by
  unfold armTimer; split <;> rfl

@[simp] theorem unsetPending_posts (w : World) (o : Obj) : (unsetPending w o).posts = w.posts := rfl
@[simp] theorem unsetPending_stack (w : World) (o : Obj) : (unsetPending w o).stack = w.stack := rfl
@[simp] theorem unsetPending_disp (w : World) (o : Obj) : (unsetPending w o).dispatched = w.dispatched := rfl
@[simp] theorem unsetPending_ops (w : World) (o : Obj) : (unsetPending w o).ops = w.ops := rfl
@[simp] theorem unsetPending_objs (w : World) (o : Obj) : (unsetPending w o).objs = w.objs := rfl

@[simp] theorem closeObj_disp (w : World) (o : Obj) : (closeObj w o).dispatched = w.dispatched := by
  unfold closeObj
  split
  · simp [unsetPending]
  · simp
@[simp] theorem closeObj_stack (w : World) (o : Obj) : (closeObj w o).stack = w.stack := by
  unfold closeObj
  split
  · simp [unsetPending]
  · simp
@[simp] theorem closeObj_posts (w : World) (o : Obj) : (closeObj w o).posts = w.posts := by unfold closeObj; split <;> rfl
@[simp] theorem closeObj_ops (w : World) (o : Obj) : (closeObj w o).ops = w.ops := by unfold closeObj; split <;> rfl

/-- The state is given by its fields so that `dispatched` and `ops`, which the accounting does not read, may be anything. -/
theorem acct_same {w u : World} (hI : AcctInv w) (hb : Bal w u) {d : Int} {ops : List OpInfo} {st : List K}
    (hf : postFrames st = postFrames w.stack) :
    AcctInv { objs := u.objs, pending := u.pending, dispatched := d, posts := u.posts, ops := ops, stack := st } := by
  obtain ⟨n1, s1, p1, _, _, _⟩ := hb
  refine ⟨n1, ?_⟩
  unfold slack at s1
  have := hI.2
  simp only [p1, hf]; omega

theorem acct_bal {w u : World} (hI : AcctInv w) (hb : Bal w u) : AcctInv u :=
  acct_same hI hb (by rw [hb.2.2.2.1])

theorem getObj_none_not_mem {w : World} {k : Nat} (h : getObj w k = none) : k ∉ ids w.objs := by
  intro hm
  obtain ⟨o, ho, hid⟩ := List.mem_map.1 hm
  have : (w.objs.find? (·.id == k)).isSome = true := by
    rw [List.find?_isSome]; exact ⟨o, ho, by simp [hid]⟩
  unfold getObj at h
  rw [h] at this; cases this

theorem run_invariant {P : World → Prop} (hstep : ∀ w w' e, P w → step w e = some w' → P w') {w w' : World}
    {evs : List Ev} (hI : P w) (h : run w evs = some w') : P w' := by
  induction evs generalizing w with
  | nil => cases h; exact hI
  | cons e r ih =>
    simp only [run] at h
    cases hs : step w e with
    | none => rw [hs] at h; cases h
    | some w1 => rw [hs] at h; exact ih (hstep w w1 e hI hs) h

end Sonic.Model.Loop
