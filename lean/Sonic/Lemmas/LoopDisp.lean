/-
Dispatch-depth accounting of the loop model (C14): `IO.Dispatched` equals a base value (0, or what the
program stored in the public field while at top level) plus the number of inline-completion frames on the
stack, and every inline-completion frame was pushed while the counter was below `MaxCallbackDispatch`.
-/
import Sonic.Lemmas.LoopInv
import Sonic.Lemmas.LoopStep

namespace Sonic.Model.Loop
open Sonic.Spec.Loop (Ev Ret Res OpKind ObjKind maxDispatch)

/-- Number of inline-completion frames (the `Dispatched++ … Dispatched--` wrapper) on the stack. -/
def decFrames : List K → Int
  | [] => 0
  | .user _ .decDisp :: r => 1 + decFrames r
  | _ :: r => decFrames r

/-- Every inline-completion frame was entered with the counter below the limit. -/
def DispOk (b : Int) : List K → Prop
  | [] => True
  | .user _ .decDisp :: r => b + decFrames r < (maxDispatch : Int) ∧ DispOk b r
  | _ :: r => DispOk b r

def DispInv (b : Int) (w : World) : Prop :=
  0 ≤ b ∧ w.dispatched = b + decFrames w.stack ∧ DispOk b w.stack

/-- The program may store a value in `IO.Dispatched` (the harness does, to force the deferred path), but only at
top level and only a non-negative one. -/
def EvOk (w : World) : Ev → Prop
  | .callSetDisp n => w.stack = [] ∧ 0 ≤ n
  | _ => True

theorem decFrames_nonneg : ∀ st : List K, 0 ≤ decFrames st
  | [] => Int.le_refl 0
  | k :: r => by
    have := decFrames_nonneg r
    cases k with
    | user op a => cases a <;> first | exact this | exact Int.add_nonneg (by decide) this
    | _ => exact this

theorem decFrames_cons_other {k : K} {r : List K} (h : ∀ op, k ≠ .user op .decDisp) : decFrames (k :: r) = decFrames r := by
  cases k with
  | user op a => cases a <;> first | rfl | exact absurd rfl (h op)
  | _ => rfl

theorem dispOk_cons_other (b : Int) {k : K} {r : List K} (h : ∀ op, k ≠ .user op .decDisp) : DispOk b (k :: r) ↔ DispOk b r := by
  cases k with
  | user op a => cases a <;> first | exact Iff.rfl | exact absurd rfl (h op)
  | _ => exact Iff.rfl

theorem decFrames_le (b : Int) (hb : 0 ≤ b) : ∀ st : List K, DispOk b st → decFrames st ≤ (maxDispatch : Int)
  | [], _ => by simp [decFrames]
  | k :: r, h => by
    cases k with
    | user op a =>
      cases a with
      | decDisp => simp only [DispOk] at h; simp only [decFrames]; omega
      | none => exact decFrames_le b hb r h
      | postDone => exact decFrames_le b hb r h
      | timerDone _ _ _ => exact decFrames_le b hb r h
    | _ => exact decFrames_le b hb r h

theorem disp_restack {b : Int} {w w' : World} {st : List K} (hI : DispInv b w) (hstk : w.stack = st)
    (hd : w'.dispatched = w.dispatched) (hf : decFrames w'.stack = decFrames st) (hok : DispOk b st → DispOk b w'.stack) :
    DispInv b w' :=
  ⟨hI.1, by rw [hd, hf, ← hstk]; exact hI.2.1, hok (hstk ▸ hI.2.2)⟩

theorem disp_swap {b : Int} {w w' : World} {k k' : K} {rest : List K} (hI : DispInv b w) (hst : w.stack = k :: rest)
    (hd : w'.dispatched = w.dispatched) (hs : w'.stack = k' :: rest)
    (hk : ∀ op, k ≠ .user op .decDisp) (hk' : ∀ op, k' ≠ .user op .decDisp) : DispInv b w' := by
  refine disp_restack hI hst hd ?_ ?_
  · rw [hs, decFrames_cons_other hk, decFrames_cons_other hk']
  · rw [hs, dispOk_cons_other b hk, dispOk_cons_other b hk']; exact id

/-- **Dispatch accounting is an invariant of the loop model** (the base value changes only by an explicit store
into `IO.Dispatched` at top level).  The counter moves only when an inline completion is entered (below the limit)
or left; every other transition pushes and pops frames of other kinds. -/
theorem step_disp_core (b : Int) (w w' : World) (e : Ev) (hI : DispInv b w) (hev : EvOk w e) (h : step w e = some w') :
    DispInv b w' ∨ ∃ n, e = .callSetDisp n ∧ DispInv n w' := by
  cases step_sound h with
  | setDisp huser =>
    obtain ⟨hst, hn⟩ := hev
    exact Or.inr ⟨_, rfl, hn, by simp [hst, decFrames], by simp [hst, DispOk]⟩
  | inline hstk hobj hinline hbelow =>
    obtain ⟨hb, hd, hok⟩ := hI
    rw [hstk] at hd hok
    simp only [decFrames] at hd
    exact Or.inl ⟨hb, by simp only [decFrames]; omega, by simp only [DispOk, decFrames]; exact ⟨by omega, hok⟩⟩
  | @exit _ _ rest _ hstk hrule =>
    left
    cases hrule with
    | decDisp =>
      obtain ⟨hb, hd, hok⟩ := hI
      rw [hstk] at hd hok
      simp only [decFrames] at hd
      exact ⟨hb, show w.dispatched - 1 = b + decFrames rest by omega, hok.2⟩
    | timerRearm =>
      exact disp_restack hI hstk (armTimer_disp ..) (by rw [armTimer_stack]; rfl) (by rw [armTimer_stack]; exact id)
    | _ => exact disp_restack hI hstk rfl rfl id
  | cancel hstk hrule =>
    left
    cases hrule with
    | read => exact disp_restack hI hstk (delRead_disp ..) rfl id
    | write => exact disp_restack hI hstk (delWrite_disp ..) rfl id
    | done => exact disp_restack hI hstk rfl rfl id
  | poll hstk hrule =>
    left
    cases hrule with
    | read => exact disp_restack hI hstk (delRead_disp ..) rfl id
    | write => exact disp_restack hI hstk (delWrite_disp ..) rfl id
    | _ => exact disp_restack hI hstk rfl rfl id
  | deferRead hstk => exact Or.inl (disp_restack hI hstk (setRead_disp ..) rfl id)
  | deferWrite hstk => exact Or.inl (disp_restack hI hstk (setWrite_disp ..) rfl id)
  | close hstk => exact Or.inl (disp_restack hI hstk (closeObj_disp ..) rfl id)
  | arm hstk => exact Or.inl (disp_restack hI hstk (by simp) rfl id)
  | startFail hstk | schedNow hstk | tcancel hstk | posted hstk =>
    exact Or.inl (disp_restack hI hstk rfl rfl id)
  | pop hstk hdrop =>
    exact Or.inl (disp_restack hI hstk rfl (decFrames_cons_other fun op => hdrop.lib op _).symm
      (dispOk_cons_other b fun op => hdrop.lib op _).1)
  | push huser hcall =>
    exact Or.inl (disp_restack hI rfl rfl (decFrames_cons_other fun op => hcall.lib op _)
      (dispOk_cons_other b fun op => hcall.lib op _).2)
  | newObj | callStart | callSched | callPost => exact Or.inl (disp_restack hI rfl rfl rfl id)

theorem step_disp {b : Int} {w w' : World} {e : Ev} (hI : DispInv b w) (hev : EvOk w e) (h : step w e = some w') :
    ∃ b', DispInv b' w' := by
  rcases step_disp_core b w w' e hI hev h with h1 | ⟨n, _, h2⟩
  · exact ⟨b, h1⟩
  · exact ⟨n, h2⟩

theorem step_disp_same_base {b : Int} {w w' : World} {e : Ev} (hI : DispInv b w) (hev : EvOk w e) (h : step w e = some w')
    (hne : ∀ n, e ≠ .callSetDisp n) : DispInv b w' := by
  rcases step_disp_core b w w' e hI hev h with h1 | ⟨n, he, _⟩
  · exact h1
  · exact absurd he (hne n)

end Sonic.Model.Loop
