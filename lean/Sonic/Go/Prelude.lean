/-
Go semantics prelude for the translated / hand-written models (core Lean only).

Go's `int` is a 64-bit two's-complement integer.  Models compute over `Int` and pass every
arithmetic result through `wrap64`, so that a value that leaves the int64 range behaves as in Go
(wraps) instead of silently being a big integer.  Proofs discharge `wrap64 x = x` from invariants.
Also here: Go's bit operations on `int`, and slice values as index ranges over a backing array (`View`).
-/
namespace Go

def I64MAX : Int :=  9223372036854775807
def I64MIN : Int := -9223372036854775808
def TWO64  : Int := 18446744073709551616

/-- `x` is representable as a Go `int`. -/
def InI64 (x : Int) : Prop := I64MIN ≤ x ∧ x ≤ I64MAX
instance (x : Int) : Decidable (InI64 x) := by unfold InI64; exact inferInstance

/-- Reduce to the int64 range (exact two's-complement wrap for every `Int`). -/
def wrap64 (x : Int) : Int := (x + 9223372036854775808) % 18446744073709551616 - 9223372036854775808

theorem wrap64_id {x : Int} (h : InI64 x) : wrap64 x = x := by
  unfold wrap64; unfold InI64 I64MIN I64MAX at h; omega

theorem wrap64_in (x : Int) : InI64 (wrap64 x) := by
  unfold wrap64 InI64 I64MIN I64MAX; omega

def add (a b : Int) : Int := wrap64 (a + b)
def sub (a b : Int) : Int := wrap64 (a - b)
def mul (a b : Int) : Int := wrap64 (a * b)
def neg (a : Int) : Int := wrap64 (-a)
/-- Go `/` truncates toward zero (division by zero panics in Go; models guard it). -/
def div (a b : Int) : Int := wrap64 (Int.tdiv a b)
/-- Go `%`: sign follows the dividend. -/
def mod (a b : Int) : Int := Int.tmod a b

def land (a b : Int) : Int := (BitVec.ofInt 64 a &&& BitVec.ofInt 64 b).toInt
def lor  (a b : Int) : Int := (BitVec.ofInt 64 a ||| BitVec.ofInt 64 b).toInt
def shl  (a b : Int) : Int := (BitVec.ofInt 64 a <<< b.toNat).toInt
def shr  (a b : Int) : Int := (BitVec.ofInt 64 a).sshiftRight b.toNat |>.toInt

theorem add_id {a b : Int} (h : InI64 (a + b)) : add a b = a + b := wrap64_id h

/-- The wrap is the identity on a sum that stays within `±I64MAX`. The bound is left as the constant `I64MAX`, which
`omega` treats as an atom, so the hypothesis is discharged from an invariant without unfolding a 19-digit numeral. -/
theorem add_eq {a b : Int} (h : -I64MAX ≤ a + b ∧ a + b ≤ I64MAX) : add a b = a + b :=
  wrap64_id ⟨by unfold I64MIN; unfold I64MAX at h; omega, h.2⟩

theorem sub_eq {a b : Int} (h : -I64MAX ≤ a - b ∧ a - b ≤ I64MAX) : sub a b = a - b :=
  wrap64_id ⟨by unfold I64MIN; unfold I64MAX at h; omega, h.2⟩

theorem mul_eq {a b : Int} (h : -I64MAX ≤ a * b ∧ a * b ≤ I64MAX) : mul a b = a * b :=
  wrap64_id ⟨by unfold I64MIN; unfold I64MAX at h; omega, h.2⟩

theorem mod_eq {a b : Int} (h : 0 ≤ a) : mod a b = a % b := Int.tmod_eq_emod_of_nonneg h

/-- A slice value: positions `[lo, hi)` of a backing array whose capacity ends at `capEnd`.
`valid = false` records that producing it would have panicked in Go (bounds out of range). -/
structure View where
  lo : Int
  hi : Int
  capEnd : Int
  valid : Bool
  isNil : Bool := false
  deriving Repr, DecidableEq

namespace View
def nil : View := { lo := 0, hi := 0, capEnd := 0, valid := true, isNil := true }
/-- The whole backing array of length `n` (len = cap = n). -/
def whole (n : Int) : View := { lo := 0, hi := n, capEnd := n, valid := true }
def len (v : View) : Int := v.hi - v.lo
/-- Go slice expression `v[a:b]` with optional bounds; Go checks `0 ≤ a ≤ b ≤ cap(v)`. -/
def slice (v : View) (a b : Option Int) : View :=
  let a' := a.getD 0
  let b' := b.getD (v.hi - v.lo)
  { lo := v.lo + a', hi := v.lo + b', capEnd := v.capEnd,
    valid := v.valid && decide (0 ≤ a' ∧ a' ≤ b' ∧ v.lo + b' ≤ v.capEnd) }
end View

end Go
